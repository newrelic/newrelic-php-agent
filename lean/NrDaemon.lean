import NrDaemon.Model.AppKey
import NrDaemon.Model.Config
import NrDaemon.Model.Containers
import NrDaemon.Model.Frame
import NrDaemon.Model.GLedger
import NrDaemon.Model.GoHeap
import NrDaemon.Model.Json
import NrDaemon.Model.Lasp
import NrDaemon.Model.Ledger
import NrDaemon.Model.Limiter
import NrDaemon.Model.Limits
import NrDaemon.Model.Metrics
import NrDaemon.Model.PidFile
import NrDaemon.Model.Proc
import NrDaemon.Model.Race
import NrDaemon.Model.Redact
import NrDaemon.Model.Regex
import NrDaemon.Model.Reservoir
import NrDaemon.Model.Respawn
import NrDaemon.Model.Rules
import NrDaemon.Model.SlowSQL
import NrDaemon.Model.SpanQueue
import NrDaemon.Model.Trigger
import NrDaemon.Spec.TopK
import NrDaemon.Lemmas.AppKey
import NrDaemon.Lemmas.AppLimit
import NrDaemon.Lemmas.Assoc
import NrDaemon.Lemmas.Containers
import NrDaemon.Lemmas.Frame
import NrDaemon.Lemmas.GLedger
import NrDaemon.Lemmas.GoHeap
import NrDaemon.Lemmas.HarvestReqs
import NrDaemon.Lemmas.Ledger
import NrDaemon.Lemmas.Lifecycle
import NrDaemon.Lemmas.Limits
import NrDaemon.Lemmas.Metrics
import NrDaemon.Lemmas.Proc
import NrDaemon.Lemmas.Regex
import NrDaemon.Lemmas.Reservoir
import NrDaemon.Lemmas.SlowSQL
import NrDaemon.Lemmas.TopK
import NrDaemon.Props.C01
import NrDaemon.Props.C02
import NrDaemon.Props.C03
import NrDaemon.Props.C04
import NrDaemon.Props.C05
import NrDaemon.Props.C06
import NrDaemon.Props.C07
import NrDaemon.Props.C08
import NrDaemon.Props.C09
import NrDaemon.Props.C10
import NrDaemon.Props.C11
import NrDaemon.Props.C12
import NrDaemon.Props.C13
import NrDaemon.Props.C14
import NrDaemon.Props.C15
import NrDaemon.Props.C16
import NrDaemon.Props.C17
import NrDaemon.Props.C18
import NrDaemon.Props.C19
import NrDaemon.Props.C20
import NrDaemon.Props.Tied
import NrDaemon.Driver.AppKey
import NrDaemon.Driver.Pid
import NrDaemon.Driver.Race
import NrDaemon.Driver.Rules
import NrDaemon.Driver.SpanQueue
import NrDaemon.Driver.Trigger
import NrDaemon.Driver.Watch
import NrDaemon.Driver.Wire
