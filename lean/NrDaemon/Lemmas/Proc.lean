import NrDaemon.Model.Proc
import NrDaemon.Lemmas.Assoc
/-!
  The two layers every proof about the processor machine (`Model/Proc.lean`) rests on: reading the application and run tables after a
  write, and what `consider` / `considerMany` emit.
-/
open Gen.Limits

/-! ### the tables: lookup after upsert / delete (`getApp`/`setApp`, `getRun`/`setRun`/`delRun`) -/

@[simp] theorem getApp_setApp (s : PState) (k : String) (a : AppM) (h : String) :
    getApp (setApp s k a) h = if h = k then some a else getApp s h := find?_key_upsert s.apps k h a

@[simp] theorem getRun_setRun (s : PState) (r : String) (m : RunM) (r' : String) :
    getRun (setRun s r m) r' = if r' = r then some m else getRun s r' := find?_key_upsert s.runs r r' m

@[simp] theorem getRun_delRun (s : PState) (r r' : String) :
    getRun (delRun s r) r' = if r' = r then none else getRun s r' := find?_key_filter s.runs r r'

@[simp] theorem getRun_setApp (s : PState) (h : String) (a : AppM) (r : String) : getRun (setApp s h a) r = getRun s r := rfl
@[simp] theorem getApp_setRun (s : PState) (r : String) (m : RunM) (h : String) : getApp (setRun s r m) h = getApp s h := rfl
@[simp] theorem getApp_delRun (s : PState) (r h : String) : getApp (delRun s r) h = getApp s h := rfl

theorem getApp_congr {s1 s2 : PState} (h : s1.apps = s2.apps) (k : String) : getApp s1 k = getApp s2 k := by
  unfold getApp; rw [h]
theorem getRun_congr {s1 s2 : PState} (h : s1.runs = s2.runs) (r : String) : getRun s1 r = getRun s2 r := by
  unfold getRun; rw [h]

/-- an entry written back with its `f`-part unchanged: the `f`-part of every lookup is what it was (with `get` one of `getApp s`,
`getRun s`; `Lemmas/Lifecycle.lean` reads the tables through such parts) -/
theorem map_touch {α β : Type} {f : α → β} {get get' : String → Option α} {k : String} {a a' : α} (ha : get k = some a)
    (hw : ∀ h, get' h = if h = k then some a' else get h) (hf : f a' = f a) (h : String) : (get' h).map f = (get h).map f := by
  rw [hw]
  split
  · next e => rw [e, ha, Option.map_some, Option.map_some, hf]
  · rfl

/-! ### what `consider` / `considerMany` emit -/

/-- a request carries the parameters the harvest was started with -/
def ReqFrom (a : HArgs) (r : Req) : Prop :=
  r.run = a.run ∧ r.license = a.license ∧ r.collector = a.collector ∧ r.hdr = a.hdr ∧ r.lang = a.lang

theorem consider_spec (s : PState) (a : HArgs) (cat : Cat) (p : Payload) :
    ((consider s a cat p).2.map fun r => (r.cat, r.payload)) = (if p.isEmpty then [] else [(cat, p)]) ∧
    (∀ r ∈ (consider s a cat p).2, ReqFrom a r) ∧
    (consider s a cat p).1.apps = s.apps ∧ (consider s a cat p).1.runs = s.runs := by
  unfold consider
  split
  · exact ⟨rfl, by simp, rfl, rfl⟩
  · exact ⟨rfl, by simp [ReqFrom], rfl, rfl⟩

theorem considerMany_cons (s : PState) (a : HArgs) (x : Cat × Payload) (l : List (Cat × Payload)) :
    considerMany s a (x :: l) =
      ((considerMany (consider s a x.1 x.2).1 a l).1, (consider s a x.1 x.2).2 ++ (considerMany (consider s a x.1 x.2).1 a l).2) := by
  -- the requests accumulated so far are only ever appended to
  have acc : ∀ (l : List (Cat × Payload)) (s : PState) (rs : List Req),
      l.foldl (fun (acc : PState × List Req) x => ((consider acc.1 a x.1 x.2).1, acc.2 ++ (consider acc.1 a x.1 x.2).2)) (s, rs) =
        ((considerMany s a l).1, rs ++ (considerMany s a l).2) := by
    intro l
    induction l with
    | nil => intro s rs; simp [considerMany]
    | cons y ys ih =>
      intro s rs
      unfold considerMany
      rw [List.foldl_cons, List.foldl_cons]
      exact (ih _ _).trans (by rw [ih _ ([] ++ _)]; simp)
  exact acc l _ _

theorem considerMany_spec (s : PState) (a : HArgs) (l : List (Cat × Payload)) :
    ((considerMany s a l).2.map fun r => (r.cat, r.payload)) = l.filter (fun x => !x.2.isEmpty) ∧
    (∀ r ∈ (considerMany s a l).2, ReqFrom a r) ∧
    (considerMany s a l).1.apps = s.apps ∧ (considerMany s a l).1.runs = s.runs := by
  induction l generalizing s with
  | nil => exact ⟨rfl, by simp [considerMany], rfl, rfl⟩
  | cons x xs ih =>
    obtain ⟨h1, h2, h3, h4⟩ := consider_spec s a x.1 x.2
    obtain ⟨i1, i2, i3, i4⟩ := ih (consider s a x.1 x.2).1
    rw [considerMany_cons]
    refine ⟨?_, List.forall_mem_append.mpr ⟨h2, i2⟩, i3.trans h3, i4.trans h4⟩
    rw [List.map_append, h1, i1, List.filter_cons]; cases x.2.isEmpty <;> rfl

theorem considerMany_mem {s : PState} {a : HArgs} {l : List (Cat × Payload)} {r : Req} (hr : r ∈ (considerMany s a l).2) :
    ReqFrom a r ∧ (r.cat, r.payload) ∈ l ∧ r.payload.isEmpty = false := by
  obtain ⟨h1, h2, _⟩ := considerMany_spec s a l
  have : (r.cat, r.payload) ∈ l.filter (fun x => !x.2.isEmpty) := h1 ▸ List.mem_map_of_mem hr
  simpa [h2 r hr] using this
