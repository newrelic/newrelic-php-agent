import NrDaemon.Lemmas.HarvestReqs
/-!
  The lifecycle of applications and runs over the processor loop (C03, C04, C05).

  The invariants speak of three projections only: the state and the description of each known application (`appState`,
  `appCfg`; together `appView`) and the application each held run belongs to (`runApp`).  `Move` lists the five things
  one event can do to them (`Moves s s'` for two states); `step_moves` shows that every event does one of them, handler
  by handler; each invariant is then checked against `Moves`, not against the handlers.
-/
open Gen.Limits

def appState (s : PState) (h : String) : Option AState := (getApp s h).map (·.state)
def runApp (s : PState) (r : String) : Option String := (getRun s r).map (·.app)
def appCfg (s : PState) (h : String) : Option AppCfg := (getApp s h).map (·.cfg)

def isTerminal (st : Option AState) : Bool := st == some .disconnected || st == some .invalidLicense

/-- a held run belongs to a connected application; an application has at most one held run -/
structure LifeInv (s : PState) : Prop where
  runConnected : ∀ r h, runApp s r = some h → appState s h = some .connected
  oneRun : ∀ r1 r2 h, runApp s r1 = some h → runApp s r2 = some h → r1 = r2

/-- what the invariants see of an application -/
def appView (s : PState) (k : String) : Option (AState × AppCfg) := (getApp s k).map fun a => (a.state, a.cfg)

theorem appState_eq_view (s : PState) (k : String) : appState s k = (appView s k).map (·.1) := by
  unfold appState appView; cases getApp s k <;> rfl
theorem appCfg_eq_view (s : PState) (k : String) : appCfg s k = (appView s k).map (·.2) := by
  unfold appCfg appView; cases getApp s k <;> rfl

theorem appState_of_view {s : PState} {k : String} {st : AState} {c : AppCfg} (h : appView s k = some (st, c)) :
    appState s k = some st := by rw [appState_eq_view, h]; rfl
theorem appView_of_get {s : PState} {k : String} {a : AppM} (ha : getApp s k = some a) : appView s k = some (a.state, a.cfg) := by
  simp [appView, ha]
theorem runApp_of_get {s : PState} {r : String} {m : RunM} (hr : getRun s r = some m) : runApp s r = some m.app := by
  simp [runApp, hr]

/-! ### the projections after a write

(The proofs below read the application table through `appView`; the equations for `appState` and `appCfg` alone are for
whoever reasons about one of them by itself.) -/

-- each projection is `Option.map` of a lookup, and `Option.map` goes through the `if` of the lookup's equation (`apply_ite`)
theorem appView_setApp (s : PState) (k : String) (a : AppM) (h : String) :
    appView (setApp s k a) h = if h = k then some (a.state, a.cfg) else appView s h :=
  (congrArg _ (getApp_setApp ..)).trans (apply_ite ..)
theorem appState_setApp (s : PState) (k : String) (a : AppM) (h : String) :
    appState (setApp s k a) h = if h = k then some a.state else appState s h :=
  (congrArg _ (getApp_setApp ..)).trans (apply_ite ..)
theorem appCfg_setApp (s : PState) (k : String) (a : AppM) (h : String) :
    appCfg (setApp s k a) h = if h = k then some a.cfg else appCfg s h :=
  (congrArg _ (getApp_setApp ..)).trans (apply_ite ..)
theorem runApp_setRun (s : PState) (r : String) (m : RunM) (r' : String) :
    runApp (setRun s r m) r' = if r' = r then some m.app else runApp s r' :=
  (congrArg _ (getRun_setRun ..)).trans (apply_ite ..)
theorem runApp_delRun (s : PState) (r r' : String) : runApp (delRun s r) r' = if r' = r then none else runApp s r' :=
  (congrArg _ (getRun_delRun ..)).trans (apply_ite ..)

theorem appView_delRun (s : PState) (r : String) (h : String) : appView (delRun s r) h = appView s h := rfl
theorem runApp_setApp (s : PState) (k : String) (a : AppM) (r : String) : runApp (setApp s k a) r = runApp s r := rfl
theorem setRun_apps (s : PState) (r : String) (m : RunM) : (setRun s r m).apps = s.apps := rfl
theorem setApp_runs (s : PState) (k : String) (a : AppM) : (setApp s k a).runs = s.runs := rfl

theorem appState_setApp_sameState (s : PState) (k : String) (a a' : AppM) (ha : getApp s k = some a)
    (hs : a'.state = a.state) (h : String) : appState (setApp s k a') h = appState s h :=
  map_touch ha (getApp_setApp s k a') hs h

theorem appCfg_setApp_same (s : PState) (k : String) (a a' : AppM) (ha : getApp s k = some a) (hc : a'.cfg = a.cfg)
    (h : String) : appCfg (setApp s k a') h = appCfg s h :=
  map_touch ha (getApp_setApp s k a') hc h

/-! ### what one event can do -/

/-- One move of the lifecycle machine, on the projections: `av`, `rv` before, `av'`, `rv'` after; `room`: the application
table may grow.  It is stated on functions, not on states, so that a handler's bookkeeping before or after its move
(which changes the state and neither projection) is absorbed by rewriting: `Moves.then_quiet`, `Moves.of_left`. -/
inductive Move (room : Prop) (av : String → Option (AState × AppCfg)) (rv : String → Option String)
    (av' : String → Option (AState × AppCfg)) (rv' : String → Option String) : Prop
  /-- nothing the invariants see (time stamps, harvest contents, requests, groups, the clock) -/
  | quiet (ha : ∀ h, av' h = av h) (hr : ∀ r, rv' r = rv r)
  /-- an unknown application is admitted, waiting for a connect -/
  | accept (k : String) (c : AppCfg) (hnew : av k = none) (hroom : room)
      (ha : ∀ h, av' h = if h = k then some (.unknown, c) else av h) (hr : ∀ r, rv' r = rv r)
  /-- the connect attempt of a waiting application fails: it goes on waiting or gets a terminal verdict -/
  | verdict (k : String) (c : AppCfg) (st : AState) (hw : av k = some (.unknown, c)) (hst : st ≠ .connected)
      (ha : ∀ h, av' h = if h = k then some (st, c) else av h) (hr : ∀ r, rv' r = rv r)
  /-- … or succeeds: the application is connected and `r` is its run -/
  | connect (k : String) (c : AppCfg) (r : String) (hw : av k = some (.unknown, c))
      (ha : ∀ h, av' h = if h = k then some (.connected, c) else av h)
      (hr : ∀ r', rv' r' = if r' = r then some k else rv r')
  /-- run `r` is shut down: its application is forgotten (`v = none`) or leaves the connected state, same description -/
  | drop (r k : String) (v : Option (AState × AppCfg)) (hrun : rv r = some k)
      (hv : ∀ st c, v = some (st, c) → st ≠ .connected ∧ (av k).map (·.2) = some c)
      (ha : ∀ h, av' h = if h = k then v else av h) (hr : ∀ r', rv' r' = if r' = r then none else rv r')

def Moves (s s' : PState) : Prop := Move (s.apps.length < AppLimit) (appView s) (runApp s) (appView s') (runApp s')

/-- nothing the invariants see has changed -/
structure Quiet (s s' : PState) : Prop where
  app : ∀ k, appView s' k = appView s k
  run : ∀ r, runApp s' r = runApp s r

theorem Quiet.refl (s : PState) : Quiet s s := ⟨fun _ => rfl, fun _ => rfl⟩
theorem Quiet.of_tables {s s' : PState} (ha : s'.apps = s.apps) (hr : s'.runs = s.runs) : Quiet s s' :=
  ⟨fun k => congrArg _ (getApp_congr ha k), fun r => congrArg _ (getRun_congr hr r)⟩
theorem Quiet.moves {s s' : PState} (q : Quiet s s') : Moves s s' := .quiet q.app q.run
theorem Moves.refl (s : PState) : Moves s s := (Quiet.refl s).moves

theorem Moves.then_quiet {s s1 s2 : PState} (m : Moves s s1) (q : Quiet s1 s2) : Moves s s2 := by
  unfold Moves
  rw [funext q.app, funext q.run]
  exact m

/-- a move starts from the two tables only (with `rfl rfl` where `s0` is `s` with other fields updated: requests in flight, groups) -/
theorem Moves.of_left {s0 s s' : PState} (m : Moves s0 s') (ha : s0.apps = s.apps) (hr : s0.runs = s.runs) : Moves s s' := by
  unfold Moves at *
  -- `room` speaks of `s.apps.length`, so the application table is rewritten as well as the two projections
  rw [← (funext (Quiet.of_tables ha hr).app : appView s0 = appView s), ← (funext (Quiet.of_tables ha hr).run : runApp s0 = runApp s), ← ha]
  exact m

/-! ### the handlers -/

theorem considerConnect_quiet (s : PState) (k : String) : Quiet s (considerConnect s k).1 := by
  unfold considerConnect
  split
  · exact .refl s
  · next app ha =>
    split
    · exact ⟨map_touch ha (fun h => getApp_setApp s k _ h) rfl, fun _ => rfl⟩
    · exact .refl s

theorem considerConnect_reqs (s : PState) (k : String) :
    ∀ r ∈ (considerConnect s k).2, ∃ app, getApp s k = some app ∧ app.state = .unknown ∧
      s.now - app.lastAttempt ≥ (AppConnectAttemptBackoff : Int) ∧
      r.cat = .preconnect ∧ r.app = k ∧ r.license = app.cfg.license ∧ r.payload = .pre app.cfg := by
  intro r hr
  unfold considerConnect at hr
  split at hr
  · cases hr
  · next app ha =>
    split at hr
    · next hc =>
      obtain rfl := List.mem_singleton.mp hr
      simp only [Bool.and_eq_true, beq_iff_eq, decide_eq_true_eq] at hc
      exact ⟨app, ha, hc.1, hc.2, rfl, rfl, rfl, rfl⟩
    · cases hr

theorem processTxn_quiet (s : PState) (r : String) (t : TxnM) : Quiet s (processTxn s r t) := by
  unfold processTxn
  split
  · exact .refl s
  · next run hr =>
    dsimp only
    have hR := fun m => map_touch (f := RunM.app) (a' := { run with h := m }) hr (getRun_setRun s r _) rfl
    split
    · exact ⟨fun _ => rfl, hR _⟩
    · next app ha => exact ⟨map_touch ha (getApp_setApp _ _ _) rfl, hR _⟩

theorem connectFailed_waiting {s : PState} {k : String} {app : AppM} (ha : getApp s k = some app) (hu : app.state = .unknown)
    (o : Outcome) :
    ∃ st, connectFailed s k o = setApp s k { app with state := st } ∧ st ≠ .connected ∧
      (o.code = 410 → st = .disconnected) ∧ (o.code = 401 → st = .invalidLicense) ∧
      (o.code ≠ 410 → o.code ≠ 401 → st = .unknown) := by
  refine ⟨_, by simp only [connectFailed, ha, hu]; rfl, ?_⟩
  simp only [Gen.Status.isDisconnect, Gen.Status.isRestartException, Gen.Status.isInvalidLicense, Bool.or_false,
    Bool.or_eq_true, decide_eq_true_eq]
  by_cases h410 : o.code = 410
  · simp [h410]
  · by_cases h401 : o.code = 401
    · simp [h401]
    · -- 409 is the other restart exception (not an invalid license): the application goes on waiting, as after any other failure
      by_cases h409 : o.code = 409 <;> simp [h410, h401, h409]

/-- a failed connect attempt decides the fate of a waiting application only -/
theorem connectFailed_moves (s : PState) (k : String) (o : Outcome) : Moves s (connectFailed s k o) := by
  cases ha : getApp s k with
  | none => rw [connectFailed, ha]; exact .refl s
  | some app =>
    by_cases hu : app.state = .unknown
    · obtain ⟨st, e, hst, _⟩ := connectFailed_waiting ha hu o
      rw [e]
      exact .verdict k app.cfg st (by rw [appView_of_get ha, hu]) hst (appView_setApp s k _) (fun _ => rfl)
    · -- the attempt was superseded
      have : connectFailed s k o = s := by simp [connectFailed, ha, hu]
      rw [this]
      exact .refl s

theorem connectOk_moves (s : PState) (k coll run : String) (cfg : RunCfg) : Moves s (connectOk s k coll run cfg) := by
  unfold connectOk
  split
  · exact .refl s
  · next app ha =>
    split
    · exact .refl s
    · next hu =>
      have hu : app.state = .unknown := by simpa using hu
      exact .connect k app.cfg run (by rw [appView_of_get ha, hu]) (appView_setApp s k _) (runApp_setRun _ run _)

/-- the verdict of a failed harvest request: at most the request's run is shut down, and then its application leaves the
connected state -/
theorem harvestVerdict_moves (s : PState) (r : Req) (o : Outcome) : Moves s (harvestVerdict s r o).1 := by
  unfold harvestVerdict
  split
  · exact .refl s
  · next run hr =>
    dsimp only
    generalize hrun' : (if Gen.Status.shouldSaveHarvestData o.code = true then
      { run with h := failedHarvest run.h r.payload r.cat } else run) = run'
    have happ : run'.app = run.app := by rw [← hrun']; split <;> rfl
    have hq : Quiet s (setRun s r.run run') := ⟨fun _ => rfl, map_touch hr (getRun_setRun s r.run run') happ⟩
    split
    · exact hq.moves
    · next app ha =>
      have ha : getApp s run.app = some app := ha
      have hdrop : ∀ st, st ≠ AState.connected →
          Moves s (shutdownRun (setApp (setRun s r.run run') run.app { app with state := st }) r.run) := fun st hst =>
        .drop r.run run.app (some (st, app.cfg)) (runApp_of_get hr)
          (fun _ _ e => by cases e; exact ⟨hst, by rw [appView_of_get ha]; rfl⟩)
          (appView_setApp _ run.app _)
          (fun r' => by rw [shutdownRun, runApp_delRun, runApp_setApp, hq.run])
      split
      · exact hdrop _ (by decide)
      · split
        · refine Moves.then_quiet ?_ (considerConnect_quiet _ _)
          exact hdrop _ (by decide)
        · exact hq.moves

theorem settleGroup_quiet (s : PState) (gid : Nat) : Quiet s (settleGroup s gid).1 :=
  .of_tables (settleGroup_tables s gid).1 (settleGroup_tables s gid).2

theorem harvestReply_moves (s : PState) (r : Req) (o : Outcome) : Moves s (harvestReply s r o).1 := by
  -- the verdict on a failed request makes its move; the bookkeeping before it and settling the group after it are quiet
  have verdict : ∀ s0, Moves s0 (if o == .ok then (s0, []) else harvestVerdict s0 r o).1 := fun s0 => by
    split
    · exact .refl _
    · exact harvestVerdict_moves _ r o
  have settle : ∀ s1, Quiet s1 (if r.group != 0 then settleGroup s1 r.group else (s1, [])).1 := fun s1 => by
    split
    · exact settleGroup_quiet _ _
    · exact .refl _
  exact ((verdict _).then_quiet (settle _)).of_left rfl rfl

/-- a harvest looks at its run and its application only: it forgets both when the application has been inactive, and
otherwise changes nothing the invariants see -/
theorem doHarvest_moves (s : PState) (runId : String) (run : RunM) (mask : Nat) (hr : getRun s runId = some run) :
    Moves s (doHarvest s runId run mask).1 := by
  unfold doHarvest
  split
  · exact .refl s
  · next app ha =>
    split
    · exact .drop runId run.app none (runApp_of_get hr) (fun _ _ e => by cases e)
        (fun h => (congrArg _ (find?_key_filter s.apps run.app h)).trans (by split <;> rfl)) (runApp_delRun s runId)
    · split
      · exact .refl s
      · next cfg _ =>
        dsimp only
        obtain ⟨h', app', hR, hA, hs, hc⟩ := harvestByType_state s runId run app cfg mask
          { run := runId, license := app.cfg.license, collector := app.collector, hdr := cfg.hdr, lang := app.cfg.lang,
            rules := cfg.rules, split := app.cfg.dt, maxPayload := cfg.maxPayload, group := 0 }
        have q := Quiet.mk (map_touch ha hA (by rw [hs, hc])) (map_touch hr hR rfl)
        split
        · exact q.moves.then_quiet (settleGroup_quiet _ _)
        · exact q.moves

theorem processAppInfo_runId (s : PState) (r : String) (cfg : AppCfg) :
    processAppInfo s (some r) cfg =
      if (getRun s r).isSome then (s, { status := .stillValid }, []) else processAppInfo s none cfg := rfl

theorem processAppInfo_valid_or (s : PState) (rid : Option String) (cfg : AppCfg) :
    processAppInfo s rid cfg = (s, { status := .stillValid }, []) ∨ processAppInfo s rid cfg = processAppInfo s none cfg := by
  cases rid with
  | none => exact .inr rfl
  | some r => rw [processAppInfo_runId]; split; exact .inl rfl; exact .inr rfl

theorem processAppInfo_known {s : PState} {cfg : AppCfg} {app : AppM} (ha : getApp s cfg.handle = some app) :
    processAppInfo s none cfg =
      ((considerConnect (setApp s cfg.handle { app with lastActivity := s.now }) cfg.handle).1,
       (match app.state with
        | .connected => { status := .connected, run := app.runId }
        | .disconnected => { status := .disconnected }
        | .invalidLicense => { status := .invalidLicense }
        | _ => { status := .unknown }),
       (considerConnect (setApp s cfg.handle { app with lastActivity := s.now }) cfg.handle).2) := by
  simp only [processAppInfo, ha]
  rfl

theorem processAppInfo_new {s : PState} {cfg : AppCfg} (hn : getApp s cfg.handle = none) :
    processAppInfo s none cfg =
      if s.apps.length ≥ AppLimit then (s, { status := .unknown }, [])
      else ((considerConnect (setApp s cfg.handle { cfg := cfg, lastActivity := s.now }) cfg.handle).1, { status := .unknown },
            (considerConnect (setApp s cfg.handle { cfg := cfg, lastActivity := s.now }) cfg.handle).2) := by
  simp only [processAppInfo, hn]
  rfl

/-- an agent query changes nothing the invariants see of a known application; an unknown one is admitted if there is room -/
theorem processAppInfo_moves (s : PState) (rid : Option String) (cfg : AppCfg) : Moves s (processAppInfo s rid cfg).1 := by
  rcases processAppInfo_valid_or s rid cfg with h | h <;> rw [h]
  · exact .refl s
  · cases ha : getApp s cfg.handle with
    | some app =>
      rw [processAppInfo_known ha]
      exact (Quiet.moves ⟨map_touch ha (getApp_setApp s _ _) (by rfl), fun _ => rfl⟩).then_quiet (considerConnect_quiet _ _)
    | none =>
      rw [processAppInfo_new ha]
      split
      · exact .refl s
      · next hl =>
        refine Moves.then_quiet ?_ (considerConnect_quiet _ _)
        exact .accept cfg.handle cfg (by simp [appView, ha]) (Nat.lt_of_not_le hl) (appView_setApp s _ _) (fun _ => rfl)

theorem preconnectReply_moves (s : PState) (r : Req) (o : Outcome) (host : String) :
    Moves s (preconnectReply s r o host).1 := by
  unfold preconnectReply
  split
  · split <;> exact .refl s
  · exact (connectFailed_moves _ r.app o).of_left rfl rfl

theorem connectReplyEv_moves (s : PState) (r : Req) (o : Outcome) (good : Option (String × RunCfg)) :
    Moves s (connectReplyEv s r o good) := by
  unfold connectReplyEv
  split
  · split
    · exact (connectOk_moves _ _ _ _ _).of_left rfl rfl
    · exact (connectFailed_moves _ r.app .ok).of_left rfl rfl
  · exact (connectFailed_moves _ r.app o).of_left rfl rfl

/-! ### the processor loop as one step function -/

/-- what the processor loop can receive -/
inductive PEvent where
  | appInfo (rid : Option String) (cfg : AppCfg)               -- an agent asks about / announces an application
  | txn (run : String) (t : TxnM)                              -- transaction data
  | harvest (run : String) (mask : Nat)                        -- a harvest trigger fires
  | harvestReply (req : Nat) (o : Outcome)                     -- a harvest request is answered
  | preconnectReply (req : Nat) (o : Outcome) (host : String)  -- a preconnect request is answered
  | connectReply (req : Nat) (o : Outcome) (good : Option (String × RunCfg))   -- a connect request is answered
  | advance (d : Nat)                                          -- time passes

def findReq (s : PState) (id : Nat) : Option Req := s.inflight.find? (·.id == id)

def PState.step (s : PState) (e : PEvent) : PState :=
  match e with
  | .appInfo rid cfg => (processAppInfo s rid cfg).1
  | .txn r t => processTxn s r t
  | .harvest r mask =>
    match getRun s r with
    | some run => (doHarvest s r run mask).1
    | none => s
  | .harvestReply id o =>
    match findReq s id with
    | some r => if r.cat != .preconnect && r.cat != .connect then (harvestReply s r o).1 else s
    | none => s
  | .preconnectReply id o host =>
    match findReq s id with
    | some r => if r.cat == .preconnect then (preconnectReply s r o host).1 else s
    | none => s
  | .connectReply id o good =>
    match findReq s id with
    | some r => if r.cat == .connect then connectReplyEv s r o good else s
    | none => s
  | .advance d => { s with now := s.now + d }

def PState.runEvents (s : PState) (es : List PEvent) : PState := es.foldl PState.step s

theorem Moves.reply {s : PState} {id : Nat} {c : Req → Bool} {f : Req → PState} (h : ∀ r, Moves s (f r)) :
    Moves s (match findReq s id with | some r => if c r then f r else s | none => s) := by
  split
  · split
    · exact h _
    · exact .refl s
  · exact .refl s

theorem step_moves (s : PState) (e : PEvent) : Moves s (s.step e) := by
  cases e with
  | appInfo rid cfg => exact processAppInfo_moves s rid cfg
  | txn r t => exact (processTxn_quiet s r t).moves
  | harvest r mask =>
    simp only [PState.step]
    split
    · next run hr => exact doHarvest_moves s r run mask hr
    · exact .refl s
  | harvestReply id o => exact .reply fun r => harvestReply_moves s r o
  | preconnectReply id o host => exact .reply fun r => preconnectReply_moves s r o host
  | connectReply id o good => exact .reply fun r => connectReplyEv_moves s r o good
  | advance d => exact .refl s

/-! ### the invariants, checked against `Moves` -/

theorem LifeInv.carry {s s' : PState} (h : LifeInv s)
    (hold : ∀ r x, runApp s' r = some x → runApp s r = some x ∧ appState s' x = appState s x) : LifeInv s' :=
  ⟨fun r x hx => (hold r x hx).2 ▸ h.runConnected r x (hold r x hx).1,
   fun r1 r2 x h1 h2 => h.oneRun r1 r2 x (hold r1 x h1).1 (hold r2 x h2).1⟩

theorem Moves.lifeInv {s s' : PState} (m : Moves s s') (h : LifeInv s) : LifeInv s' := by
  -- a move changes the view of one application `k`; the state of any other is what it was
  have other : ∀ {k v x}, (∀ y, appView s' y = if y = k then v else appView s y) → x ≠ k → appState s' x = appState s x :=
    fun ha hx => by rw [appState_eq_view, ha, if_neg hx, appState_eq_view]
  -- an application that is not connected holds no run
  have noRun : ∀ {k}, appState s k ≠ some .connected → ∀ r, runApp s r ≠ some k := fun hk r hr => hk (h.runConnected r _ hr)
  cases m with
  | quiet ha hr => exact h.carry fun r x hx => ⟨hr r ▸ hx, by rw [appState_eq_view, ha, appState_eq_view]⟩
  | accept k c hnew _ ha hr =>
    have hk : appState s k ≠ some .connected := by rw [appState_eq_view, hnew]; simp
    exact h.carry fun r x hx => ⟨hr r ▸ hx, other ha fun e => noRun hk r (e ▸ hr r ▸ hx)⟩
  | verdict k c st hw _ ha hr =>
    have hk : appState s k ≠ some .connected := by rw [appState_of_view hw]; simp
    exact h.carry fun r x hx => ⟨hr r ▸ hx, other ha fun e => noRun hk r (e ▸ hr r ▸ hx)⟩
  | drop r k v hrun _ ha hr =>
    -- `r` was the only run of `k`, so no remaining run belongs to `k`
    refine h.carry fun r' x hx => ?_
    rw [hr] at hx
    split at hx
    · cases hx
    · next hne => exact ⟨hx, other ha fun e => hne (h.oneRun r' r k (e ▸ hx) hrun)⟩
  | connect k c r hw ha hr =>
    -- `k` was waiting, so it held no run: `r` is its only one now, and the runs of the others are as before
    have hk : appState s k ≠ some .connected := by rw [appState_of_view hw]; simp
    have old : ∀ {r' x}, r' ≠ r → runApp s' r' = some x → runApp s r' = some x ∧ appState s' x = appState s x :=
      fun hne hx => by
        rw [hr, if_neg hne] at hx
        exact ⟨hx, other ha fun e => noRun hk _ (e ▸ hx)⟩
    have new : ∀ {x}, runApp s' r = some x → x = k := fun hx => by
      rw [hr, if_pos rfl] at hx
      exact (Option.some.inj hx).symm
    constructor
    · intro r' x hx
      by_cases e : r' = r
      · subst e
        rw [new hx, appState_eq_view, ha, if_pos rfl]
        rfl
      · rw [(old e hx).2]
        exact h.runConnected r' x (old e hx).1
    · intro r1 r2 x h1 h2
      by_cases e1 : r1 = r <;> by_cases e2 : r2 = r
      · rw [e1, e2]
      · subst e1; exact absurd (new h1 ▸ (old e2 h2).1) (noRun hk r2)
      · subst e2; exact absurd (new h2 ▸ (old e1 h1).1) (noRun hk r1)
      · exact h.oneRun r1 r2 x (old e1 h1).1 (old e2 h2).1

/-- no move changes the state of a terminally disconnected / invalid-license application: the application a move touches
is unknown to the processor, waiting for a connect, or (holding a run) connected -/
theorem Moves.terminal {s s' : PState} (m : Moves s s') (h : LifeInv s) (k : String)
    (ht : isTerminal (appState s k) = true) : appState s' k = appState s k := by
  have keep : ∀ x v, (∀ y, appView s' y = if y = x then v else appView s y) →
      (appState s x = none ∨ appState s x = some .unknown ∨ appState s x = some .connected) → appState s' k = appState s k := by
    intro x v ha hx
    have hk : k ≠ x := by
      intro e; subst e
      rcases hx with e | e | e <;> rw [e] at ht <;> cases ht
    rw [appState_eq_view, ha, if_neg hk, appState_eq_view]
  cases m with
  | quiet ha _ => rw [appState_eq_view, ha, appState_eq_view]
  | accept x c hnew _ ha _ => exact keep x _ ha (.inl (by rw [appState_eq_view, hnew]; rfl))
  | verdict x c st hw _ ha _ => exact keep x _ ha (.inr (.inl (appState_of_view hw)))
  | connect x c r hw ha _ => exact keep x _ ha (.inr (.inl (appState_of_view hw)))
  | drop r x v hrun _ ha _ => exact keep x _ ha (.inr (.inr (h.runConnected r x hrun)))

theorem Moves.cfg {s s' : PState} (m : Moves s s') :
    (∀ h, appCfg s' h = appCfg s h ∨ appCfg s' h = none) ∨
    (∃ k c, appCfg s k = none ∧ s.apps.length < AppLimit ∧ ∀ h, appCfg s' h = if h = k then some c else appCfg s h) := by
  have same : ∀ x v, (∀ y, appView s' y = if y = x then v else appView s y) → (v.map (·.2) = appCfg s x ∨ v = none) →
      ∀ h, appCfg s' h = appCfg s h ∨ appCfg s' h = none := by
    intro x v ha hv h
    rw [appCfg_eq_view s', ha]
    split
    · next e =>
      subst e
      rcases hv with e | e
      · exact .inl e
      · exact .inr (by rw [e]; rfl)
    · exact .inl (appCfg_eq_view s h).symm
  cases m with
  | quiet ha _ => exact .inl fun h => .inl (by rw [appCfg_eq_view, ha, appCfg_eq_view])
  | accept k c hnew hroom ha _ =>
    refine .inr ⟨k, c, by rw [appCfg_eq_view, hnew]; rfl, hroom, fun h => ?_⟩
    rw [appCfg_eq_view, ha]
    split
    · rfl
    · exact (appCfg_eq_view s h).symm
  | verdict k c st hw _ ha _ => exact .inl (same k _ ha (.inl (by rw [appCfg_eq_view, hw]; rfl)))
  | connect k c r hw ha _ => exact .inl (same k _ ha (.inl (by rw [appCfg_eq_view, hw]; rfl)))
  | drop r k v _ hv ha _ =>
    refine .inl (same k v ha ?_)
    cases v with
    | none => exact .inr rfl
    | some p => exact .inl (by rw [appCfg_eq_view]; exact (hv p.1 p.2 rfl).2.symm)

theorem lifeInv_empty : LifeInv ({} : PState) := by
  constructor <;> intro r <;> simp [runApp, getRun]

theorem step_lifeInv (s : PState) (e : PEvent) (h : LifeInv s) : LifeInv (s.step e) := (step_moves s e).lifeInv h

/-- no event of the processor loop changes the description (license, name, redirect collector, high-security flag,
language, host, …) of an application it knows; the application can only be forgotten (inactivity) -/
theorem step_cfg (s : PState) (e : PEvent) (h : String) (c : AppCfg) (hc : appCfg s h = some c) :
    appCfg (s.step e) h = some c ∨ appCfg (s.step e) h = none := by
  rcases (step_moves s e).cfg with hk | ⟨k, _, hn, _, ha⟩
  · rcases hk h with e | e
    · exact .inl (e.trans hc)
    · exact .inr e
  · refine .inl ((ha h).trans ?_)
    split
    · next e => subst e; rw [hn] at hc; cases hc
    · exact hc

theorem runEvents_inv {P : PState → Prop} (hstep : ∀ s e, P s → P (s.step e)) (s : PState) (es : List PEvent) (h : P s) :
    P (s.runEvents es) :=
  es.foldlRecOn _ h fun s hs e _ => hstep s e hs
