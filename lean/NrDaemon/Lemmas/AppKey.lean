import NrDaemon.Model.AppKey
/-! Lemmas for the application identity: the byte order is core's lexicographic order; sorted name lists are canonical;
concatenation is injective on prefix-free lists of non-empty names. -/

theorem bytesLe_iff_le (a b : Bytes) : bytesLe a b = true ↔ a ≤ b := by
  induction a generalizing b with
  | nil => simp [bytesLe]
  | cons x xs ih =>
    cases b with
    | nil => simp [bytesLe]
    | cons y ys =>
      rw [bytesLe, List.cons_le_cons_iff, ← ih]
      by_cases h1 : x < y
      · simp [h1]
      · by_cases h2 : y < x
        · have : x ≠ y := fun e => h1 (e ▸ h2)
          simp [h1, h2, this]
        · have : x = y := UInt8.le_antisymm (UInt8.not_lt.1 h2) (UInt8.not_lt.1 h1)
          simp [this]

theorem mergeSort_bytes_eq_iff (l1 l2 : List Bytes) :
    l1.mergeSort bytesLe = l2.mergeSort bytesLe ↔ l1.Perm l2 := by
  have tr : ∀ a b c : Bytes, bytesLe a b = true → bytesLe b c = true → bytesLe a c = true := fun a b c => by
    simp only [bytesLe_iff_le]; exact List.le_trans
  have tot : ∀ a b : Bytes, (bytesLe a b || bytesLe b a) = true := fun a b => by
    simp only [Bool.or_eq_true, bytesLe_iff_le]; exact List.le_total a b
  constructor
  · intro h
    exact ((List.mergeSort_perm l1 bytesLe).symm.trans (h ▸ List.Perm.refl _)).trans (List.mergeSort_perm l2 bytesLe)
  · intro h
    apply List.Perm.eq_of_pairwise (le := fun a b => bytesLe a b = true)
    · intro a b _ _; simp only [bytesLe_iff_le]; exact List.le_antisymm
    · exact List.pairwise_mergeSort tr tot l1
    · exact List.pairwise_mergeSort tr tot l2
    · exact ((List.mergeSort_perm l1 bytesLe).trans h).trans (List.mergeSort_perm l2 bytesLe).symm

theorem flatten_inj_of_prefixFree {α : Type} (l1 l2 : List (List α))
    (hne : ∀ x, (x ∈ l1 ∨ x ∈ l2) → x ≠ [])
    (hpf : ∀ x y, (x ∈ l1 ∨ x ∈ l2) → (y ∈ l1 ∨ y ∈ l2) → x <+: y → x = y)
    (h : l1.flatten = l2.flatten) : l1 = l2 := by
  induction l1 generalizing l2 with
  | nil =>
    cases l2 with
    | nil => rfl
    | cons y ys => exact absurd (List.append_eq_nil_iff.1 h.symm).1 (hne y (.inr List.mem_cons_self))
  | cons x xs ih =>
    cases l2 with
    | nil => exact absurd (List.append_eq_nil_iff.1 h).1 (hne x (.inl List.mem_cons_self))
    | cons y ys =>
      simp only [List.flatten_cons] at h
      have hxy : x = y := by
        rcases List.append_eq_append_iff.mp h with ⟨a', hy, _⟩ | ⟨c', hx, _⟩
        · exact hpf x y (.inl List.mem_cons_self) (.inr List.mem_cons_self) ⟨a', hy.symm⟩
        · exact (hpf y x (.inr List.mem_cons_self) (.inl List.mem_cons_self) ⟨c', hx.symm⟩).symm
      subst hxy
      have tl {z : List α} : z ∈ xs ∨ z ∈ ys → z ∈ x :: xs ∨ z ∈ x :: ys := .imp (List.mem_cons_of_mem _) (List.mem_cons_of_mem _)
      rw [ih ys (fun z hz => hne z (tl hz)) (fun a b ha hb => hpf a b (tl ha) (tl hb)) (List.append_cancel_left h)]
