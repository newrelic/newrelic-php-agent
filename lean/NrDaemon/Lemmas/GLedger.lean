import NrDaemon.Model.GLedger
/-!
  The generic ledger machine, for every history: what holds of every container the machine ever holds (`GM.run_all`),
  and conservation for lawful containers (`gLedger`).
-/

variable {σ α : Type}

theorem List.perm_cons_eraseIdx {l : List σ} {i : Nat} {p : σ} (h : l[i]? = some p) : l.Perm (p :: l.eraseIdx i) := by
  induction l generalizing i with
  | nil => cases h
  | cons y ys ih =>
    cases i with
    | zero => cases h; exact .refl _
    | succ j => exact ((ih h).cons y).trans (.swap ..)

theorem mem_of_mem_eraseIdx_gen (l : List σ) (i : Nat) (q : σ) (h : q ∈ l.eraseIdx i) : q ∈ l :=
  List.mem_of_mem_eraseIdx h

theorem Cont.Lawful.of_conserve (C : Cont σ α) (hf : C.contents C.fresh = [])
    (ho : ∀ s x, ∃ d, (C.contents (C.offer s x) ++ d).Perm (C.contents s ++ [x]))
    (hm : ∀ s p, ∃ d, (C.contents (C.mergeFailed s p) ++ d).Perm (C.contents s ++ C.contents p)) :
    C.Lawful (fun _ => True) :=
  ⟨trivial, fun _ _ _ => trivial, fun _ _ _ _ => trivial, hf, fun s x _ => ho s x, fun s p _ _ => hm s p⟩

/-- for a category whose `FailedHarvest` does nothing: the failed payload is dropped whole -/
theorem Cont.Lawful.of_no_retry (C : Cont σ α) (hf : C.contents C.fresh = [])
    (ho : ∀ s x, ∃ d, (C.contents (C.offer s x) ++ d).Perm (C.contents s ++ [x])) (hm : ∀ s p, C.mergeFailed s p = s) :
    C.Lawful (fun _ => True) :=
  .of_conserve C hf ho fun s p => ⟨C.contents p, by rw [hm]⟩

def GM.All (P : σ → Prop) (s : GM σ α) : Prop := P s.cur ∧ ∀ p ∈ s.inflight, P p

@[elab_as_elim]
theorem GM.step_cases {motive : GM σ α → Prop} (C : Cont σ α) (s : GM σ α) (ev : GEvent α) (stay : motive s)
    (offer : ∀ x, motive { s with cur := C.offer s.cur x, offered := s.offered ++ [x] })
    (harvest : motive { s with inflight := s.inflight ++ [s.cur], cur := C.fresh })
    (ack : ∀ i p, s.inflight[i]? = some p →
      motive { s with inflight := s.inflight.eraseIdx i, acked := s.acked ++ C.contents p })
    (retry : ∀ i p, s.inflight[i]? = some p →
      motive { s with inflight := s.inflight.eraseIdx i, cur := C.mergeFailed s.cur p })
    (fatal : ∀ i p, s.inflight[i]? = some p → motive { s with inflight := s.inflight.eraseIdx i }) :
    motive (s.step C ev) := by
  fun_cases GM.step C s ev
  next x => exact offer x
  next => exact stay            -- an empty container is not sent
  next => exact harvest
  next i p hp => exact ack i p hp
  next => exact stay            -- no such request
  next i p hp => exact retry i p hp
  next => exact stay
  next i p hp => exact fatal i p hp
  next => exact stay

section
variable (C : Cont σ α) (P : σ → Prop) (hf : P C.fresh) (ho : ∀ s x, P s → P (C.offer s x))
  (hm : ∀ s p, P s → P p → P (C.mergeFailed s p))
include hf ho hm

theorem GM.step_all (s : GM σ α) (ev : GEvent α) (h : s.All P) : (s.step C ev).All P := by
  obtain ⟨hc, hi⟩ := h
  have herase : ∀ i, ∀ q ∈ s.inflight.eraseIdx i, P q := fun i q hq => hi q (List.mem_of_mem_eraseIdx hq)
  exact GM.step_cases C s ev ⟨hc, hi⟩ (fun x => ⟨ho _ _ hc, hi⟩)
    ⟨hf, List.forall_mem_append.mpr ⟨hi, List.forall_mem_singleton.mpr hc⟩⟩ (fun i _ _ => ⟨hc, herase i⟩)
    (fun i p hp => ⟨hm _ _ hc (hi p (List.mem_of_getElem? hp)), herase i⟩) (fun i _ _ => ⟨hc, herase i⟩)

theorem GM.run_all (s : GM σ α) (evs : List (GEvent α)) (h : s.All P) : (s.run C evs).All P :=
  evs.foldlRecOn _ h fun s hs e _ => GM.step_all C P hf ho hm s e hs

end

theorem GM.init_all (C : Cont σ α) (P : σ → Prop) (hf : P C.fresh) : (GM.init C).All P := ⟨hf, fun _ h => nomatch h⟩

theorem GM.run_append (C : Cont σ α) (s : GM σ α) (evs evs' : List (GEvent α)) :
    s.run C (evs ++ evs') = (s.run C evs).run C evs' := List.foldl_append

theorem GM.run_offers (C : Cont σ α) (xs : List α) (s : GM σ α) :
    s.run C (xs.map .offer) = { s with cur := xs.foldl C.offer s.cur, offered := s.offered ++ xs } := by
  induction xs generalizing s with
  | nil => simp [GM.run]
  | cons x xs ih => simpa [GM.run, GM.step] using ih (s.step C (.offer x))

theorem GM.acked_offers_harvest_ack (C : Cont σ α) (xs : List α) (hne : C.isEmpty (xs.foldl C.offer C.fresh) = false) :
    ((GM.init C).run C (xs.map .offer ++ [.harvest, .ack 0])).acked = C.contents (xs.foldl C.offer C.fresh) := by
  rw [GM.run_append, GM.run_offers]
  simp [GM.run, GM.step, GM.init, hne]

theorem List.perm_append_right_comm (l₁ l₂ l₃ : List α) : (l₁ ++ l₂ ++ l₃).Perm (l₁ ++ l₃ ++ l₂) := by
  rw [List.append_assoc, List.append_assoc]; exact List.perm_append_comm.append_left _

/-- how `held` changes with the current container: what that drops (`d`) and takes in (`u`) -/
theorem GM.held_cur (C : Cont σ α) (s : GM σ α) {c' : σ} {d u : List α}
    (h : (C.contents c' ++ d).Perm (C.contents s.cur ++ u)) :
    (({ s with cur := c' } : GM σ α).held C ++ d).Perm (s.held C ++ u) := by
  unfold GM.held
  rw [List.append_assoc (C.contents c'), List.append_assoc (C.contents s.cur)]
  exact (List.perm_append_right_comm ..).trans ((h.append_right _).trans (List.perm_append_right_comm ..))

/-- … and when request `i` is taken out of flight -/
theorem GM.held_take (C : Cont σ α) (s : GM σ α) {i : Nat} {p : σ} (hp : s.inflight[i]? = some p) :
    (({ s with inflight := s.inflight.eraseIdx i } : GM σ α).held C ++ C.contents p).Perm (s.held C) := by
  have h := (List.perm_cons_eraseIdx hp).flatMap_right C.contents
  rw [List.flatMap_cons] at h
  unfold GM.held
  refine (List.perm_append_right_comm ..).trans (.append_right _ ?_)
  rw [List.append_assoc]
  exact (List.perm_append_comm.trans h.symm).append_left _

theorem GM.step_conserved (C : Cont σ α) (Inv : σ → Prop) (hC : C.Lawful Inv) (s : GM σ α) (ev : GEvent α) (hi : s.All Inv)
    (h : ∃ lost, (s.held C ++ lost).Perm s.offered) : ∃ lost, ((s.step C ev).held C ++ lost).Perm (s.step C ev).offered := by
  obtain ⟨lost, hl⟩ := h
  refine GM.step_cases C s ev ⟨lost, hl⟩ (fun e => ?_) ?_ (fun i p hp => ?_) (fun i p hp => ?_) (fun i p hp => ?_)
  · -- offer: the container says what it drops
    obtain ⟨d, hd⟩ := hC.offer_conserve s.cur e hi.1
    refine ⟨d ++ lost, ?_⟩
    rw [← List.append_assoc]
    exact ((GM.held_cur C s hd).append_right lost).trans ((List.perm_append_right_comm ..).trans (hl.append_right _))
  · -- harvest: the container goes from the front of `held` to the end of those in flight; the fresh one is empty
    refine ⟨lost, .trans (.append_right lost ?_) hl⟩
    unfold GM.held
    rw [hC.fresh_contents, List.flatMap_append, List.flatMap_singleton, List.nil_append]
    exact List.perm_append_comm.append_right _
  · -- ack: the payload goes from flight to the end of `acked`
    refine ⟨lost, .trans (.append_right lost ?_) hl⟩
    refine .trans ?_ (GM.held_take C s hp)
    unfold GM.held
    rw [← List.append_assoc]
  · -- retry: out of flight and into the current container, which says what it drops
    obtain ⟨d, hd⟩ := hC.merge_conserve s.cur p hi.1 (hi.2 p (List.mem_of_getElem? hp))
    refine ⟨d ++ lost, ?_⟩
    rw [← List.append_assoc]
    have hcur := GM.held_cur C { s with inflight := s.inflight.eraseIdx i } hd
    exact ((hcur.trans (GM.held_take C s hp)).append_right lost).trans hl
  · -- fatal: the payload is lost
    refine ⟨C.contents p ++ lost, ?_⟩
    rw [← List.append_assoc]
    exact ((GM.held_take C s hp).append_right lost).trans hl

theorem GM.run_conserved (C : Cont σ α) (Inv : σ → Prop) (hC : C.Lawful Inv) (s : GM σ α) (evs : List (GEvent α))
    (hi : s.All Inv) (h : ∃ lost, (s.held C ++ lost).Perm s.offered) :
    ∃ lost, ((s.run C evs).held C ++ lost).Perm (s.run C evs).offered := by
  induction evs generalizing s with
  | nil => exact h
  | cons e es ih =>
    exact ih _ (GM.step_all C Inv hC.fresh_inv hC.offer_inv hC.merge_inv s e hi) (GM.step_conserved C Inv hC s e hi h)

variable [DecidableEq α]

/-- conservation over all histories, for every lawful container: each unit ever offered is in exactly one place — the current
container, a payload in flight, acknowledged, or lost -/
theorem gLedger (C : Cont σ α) (Inv : σ → Prop) (hC : C.Lawful Inv) (evs : List (GEvent α)) :
    let s := (GM.init C).run C evs
    ∃ lost, (C.contents s.cur ++ s.inflight.flatMap C.contents ++ s.acked ++ lost).Perm s.offered :=
  GM.run_conserved C Inv hC _ evs (GM.init_all C Inv hC.fresh_inv) ⟨[], by simp [GM.init, GM.held, hC.fresh_contents]⟩

/-- **delivered at most once**: with pairwise distinct units, nothing is acknowledged twice and nothing acknowledged is
still held or in flight -/
theorem gLedger_at_most_once (C : Cont σ α) (Inv : σ → Prop) (hC : C.Lawful Inv) (evs : List (GEvent α))
    (hd : ((GM.init C).run C evs).offered.Nodup) :
    let s := (GM.init C).run C evs
    s.acked.Nodup ∧ ∀ e ∈ s.acked, e ∉ C.contents s.cur ∧ e ∉ s.inflight.flatMap C.contents := by
  obtain ⟨lost, hp⟩ := gLedger C Inv hC evs
  have hn := hp.nodup_iff.mpr hd
  -- `cur ++ (inflight ++ (acked ++ lost))` has no duplicates: each part has none and each is disjoint from what follows it
  simp only [List.nodup_append, List.append_assoc] at hn
  obtain ⟨_, ⟨_, ⟨hacked, _, _⟩, hdisj2⟩, hdisj1⟩ := hn
  exact ⟨hacked, fun e he => ⟨fun hc => hdisj1 e hc e (by simp [he]) rfl, fun hc => hdisj2 e hc e (by simp [he]) rfl⟩⟩
