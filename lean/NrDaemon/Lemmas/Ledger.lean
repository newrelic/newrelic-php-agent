import NrDaemon.Model.Ledger
import NrDaemon.Lemmas.Containers
/-!
  `CatM` (`Model/Ledger.lean`) is the generic ledger machine over the event reservoir `evCont`: what is proved of `GM`
  for every container holds of it.
-/

def CatEvent.toG : CatEvent → GEvent Ev
  | .offer e => .offer e
  | .harvest => .harvest
  | .ack i => .ack i
  | .retry i => .retry i
  | .fatal i => .fatal i

/-- the machine without its two constants -/
def CatM.toGM (s : CatM) : GM Res Ev := { cur := s.cur, inflight := s.inflight, acked := s.acked, offered := s.offered }

theorem CatM.step_toGM (s : CatM) (ev : CatEvent) :
    (s.step ev).toGM = s.toGM.step (evCont s.cap s.limit) ev.toG ∧ (s.step ev).cap = s.cap ∧ (s.step ev).limit = s.limit := by
  cases ev with
  | offer e => exact ⟨rfl, rfl, rfl⟩
  | harvest =>
    dsimp only [CatM.step, GM.step, CatEvent.toG, CatM.toGM, evCont]
    split <;> exact ⟨rfl, rfl, rfl⟩
  | ack i | retry i | fatal i =>
    dsimp only [CatM.step, GM.step, CatEvent.toG, CatM.toGM]
    cases s.inflight[i]? <;> exact ⟨rfl, rfl, rfl⟩

theorem CatM.run_toGM (cap limit : Nat) (evs : List CatEvent) :
    ((CatM.init cap limit).run evs).toGM = (GM.init (evCont cap limit)).run (evCont cap limit) (evs.map CatEvent.toG) := by
  have key : ∀ s : CatM, (s.run evs).toGM = s.toGM.run (evCont s.cap s.limit) (evs.map CatEvent.toG) := by
    induction evs with
    | nil => exact fun _ => rfl
    | cons e es ih =>
      intro s
      obtain ⟨h1, h2, h3⟩ := s.step_toGM e
      simp only [CatM.run, GM.run, List.map_cons, List.foldl_cons] at ih ⊢
      rw [ih, h1, h2, h3]
  exact key _
