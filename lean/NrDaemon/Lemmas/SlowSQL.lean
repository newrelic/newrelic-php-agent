import NrDaemon.Model.SlowSQL
import NrDaemon.Lemmas.Assoc
/-! Lemmas about `slowObserve` (C06: the retained slow SQLs are the statements with the largest maximum duration). -/

theorem Nat.min_eq_ite (a b : Nat) : Nat.min a b = if b < a then b else a := by
  by_cases h : b < a
  · rw [if_pos h]; exact Nat.min_eq_right (Nat.le_of_lt h)
  · rw [if_neg h]; exact Nat.min_eq_left (Nat.not_lt.mp h)

theorem Nat.max_eq_ite (a b : Nat) : Nat.max a b = if b > a then b else a := by
  by_cases h : b > a
  · rw [if_pos h]; exact Nat.max_eq_right (Nat.le_of_lt h)
  · rw [if_neg h]; exact Nat.max_eq_left (Nat.not_lt.mp h)

theorem Slow.merge_fields (s o : Slow) :
    (s.merge o).id = s.id ∧ (s.merge o).count = s.count + o.count ∧ (s.merge o).total = s.total + o.total ∧
    (s.merge o).min = Nat.min s.min o.min ∧ (s.merge o).max = Nat.max s.max o.max ∧
    (s.merge o).text = if o.max > s.max then o.text else s.text := by
  rw [Nat.min_eq_ite, Nat.max_eq_ite]
  unfold Slow.merge
  dsimp only
  split <;> split <;> exact ⟨rfl, rfl, rfl, rfl, rfl, rfl⟩

theorem Slow.merge_id (s o : Slow) : (s.merge o).id = s.id := (Slow.merge_fields s o).1

theorem Slow.merge_max_ge (s o : Slow) : s.max ≤ (s.merge o).max ∧ o.max ≤ (s.merge o).max := by
  obtain ⟨-, -, -, -, hmax, -⟩ := Slow.merge_fields s o
  rw [hmax]
  exact ⟨Nat.le_max_left .., Nat.le_max_right ..⟩

theorem slowMergeInto_none (l : List Slow) (o : Slow) : slowMergeInto l o = none ↔ ∀ s ∈ l, s.id ≠ o.id := by
  fun_induction slowMergeInto l o
  next => exact ⟨fun _ _ h => absurd h List.not_mem_nil, fun _ => rfl⟩
  next s rest o hid => exact ⟨nofun, fun h => absurd hid (h s List.mem_cons_self)⟩
  next s rest o hne ih =>
    rw [Option.map_eq_none_iff, ih, List.forall_mem_cons]
    exact ⟨fun h => ⟨hne, h⟩, And.right⟩

theorem slowMergeInto_some (l l' : List Slow) (o : Slow) (h : slowMergeInto l o = some l') :
    ∃ pre s post, l = pre ++ s :: post ∧ l' = pre ++ s.merge o :: post ∧ s.id = o.id := by
  fun_induction slowMergeInto l o generalizing l'
  next => cases h
  next s rest o hid => cases h; exact ⟨[], s, rest, rfl, rfl, hid⟩
  next s rest o hne ih =>
    obtain ⟨r', hr, rfl⟩ := Option.map_eq_some_iff.mp h
    obtain ⟨pre, t, post, rfl, rfl, hid⟩ := ih r' hr
    exact ⟨s :: pre, t, post, rfl, rfl, hid⟩

/-- `slowFastestAux`, started behind `pre ++ m :: post` (at index `k`) with `m` the least so far, returns the place of a least entry -/
theorem slowFastestAux_spec (rest pre post : List Slow) (m : Slow) (k : Nat) (hk : k = (pre ++ m :: post).length)
    (hmin : ∀ s ∈ pre ++ m :: post, m.max ≤ s.max) :
    ∃ pre' m' post', pre ++ m :: post ++ rest = pre' ++ m' :: post' ∧
      slowFastestAux rest k pre.length m.max = pre'.length ∧ ∀ s ∈ pre' ++ m' :: post', m'.max ≤ s.max := by
  induction rest generalizing pre post m k with
  | nil => exact ⟨pre, m, post, by simp, rfl, hmin⟩
  | cons x xs ih =>
    simp only [slowFastestAux]
    split
    · next hlt =>
      obtain ⟨pre', m', post', h1, h2, h3⟩ := ih (pre ++ m :: post) [] x (k + 1) (by simp [hk, Nat.add_assoc])
        (List.forall_mem_append.mpr ⟨fun s hs => Nat.le_trans (Nat.le_of_lt hlt) (hmin s hs),
          List.forall_mem_singleton.mpr (Nat.le_refl _)⟩)
      exact ⟨pre', m', post', by simpa using h1, hk ▸ h2, h3⟩
    · next hge =>
      obtain ⟨pre', m', post', h1, h2, h3⟩ := ih pre (post ++ [x]) m (k + 1) (by simp [hk, Nat.add_assoc]) (by
        rw [← List.cons_append, ← List.append_assoc]
        exact List.forall_mem_append.mpr ⟨hmin, List.forall_mem_singleton.mpr (Nat.not_lt.mp hge)⟩)
      exact ⟨pre', m', post', by simpa using h1, h2, h3⟩

theorem slowFastest_spec {l : List Slow} {idx : Nat} (h : slowFastest l = some idx) :
    ∃ pre m post, l = pre ++ m :: post ∧ idx = pre.length ∧ ∀ s ∈ l, m.max ≤ s.max := by
  cases l with
  | nil => cases h
  | cons s rest =>
    obtain ⟨pre, m, post, h1, h2, h3⟩ := slowFastestAux_spec rest [] [] s 1 rfl (by simp)
    have h1' : s :: rest = pre ++ m :: post := h1
    exact ⟨pre, m, post, h1', (Option.some.inj h).symm.trans h2, h1' ▸ h3⟩

/-- an observation is accounted for: merged into a retained statement whose maximum covers it, or it belongs to a
statement that is not retained and is no slower than any retained one (the collection being full) -/
def slowCovered (cap : Nat) (l : List Slow) (o : Slow) : Prop :=
  (∃ r ∈ l, r.id = o.id ∧ o.max ≤ r.max) ∨
  (l.length = cap ∧ (∀ r ∈ l, r.id ≠ o.id) ∧ ∀ r ∈ l, o.max ≤ r.max)

/-- what `slowObserve` keeps of the collection `l`, `seen` being the observations made so far -/
structure SlowInv (cap : Nat) (l : List Slow) (seen : List Slow) : Prop where
  len : l.length ≤ cap
  ids : (l.map (·.id)).Nodup
  cov : ∀ o ∈ seen, slowCovered cap l o

theorem slowCovered_mono {cap : Nat} {l l' : List Slow} {x : Slow}
    (h1 : ∀ r ∈ l, ∃ r' ∈ l', r'.id = r.id ∧ r.max ≤ r'.max)
    (h2 : l.length = cap → l'.length = cap ∧ ∀ r' ∈ l', ∃ r ∈ l, r.id = r'.id ∧ r.max ≤ r'.max)
    (h : slowCovered cap l x) : slowCovered cap l' x := by
  rcases h with ⟨r, hr, hid, hmax⟩ | ⟨hfull, hnot, hle⟩
  · obtain ⟨r', hr', hid', hmax'⟩ := h1 r hr
    exact Or.inl ⟨r', hr', hid'.trans hid, Nat.le_trans hmax hmax'⟩
  · obtain ⟨hfull', hback⟩ := h2 hfull
    refine Or.inr ⟨hfull', fun r' hr' => ?_, fun r' hr' => ?_⟩ <;> obtain ⟨r, hr, hid, hmax⟩ := hback r' hr'
    · rw [← hid]; exact hnot r hr
    · exact Nat.le_trans (hle r hr) hmax

theorem mem_mid {α : Type} {r a : α} {pre post : List α} : r ∈ pre ++ a :: post ↔ r ∈ pre ∨ r = a ∨ r ∈ post := by simp

theorem mem_exchange {α : Type} {P : α → α → Prop} (hrefl : ∀ r, P r r) {pre post : List α} {m m' : α} (hm : P m m') :
    ∀ r ∈ pre ++ m :: post, ∃ r' ∈ pre ++ m' :: post, P r r' := by
  intro r hr
  rcases mem_mid.mp hr with h | rfl | h
  · exact ⟨r, mem_mid.mpr (Or.inl h), hrefl r⟩
  · exact ⟨m', mem_mid.mpr (Or.inr (Or.inl rfl)), hm⟩
  · exact ⟨r, mem_mid.mpr (Or.inr (Or.inr h)), hrefl r⟩

theorem nodup_exchange {α : Type} {l₁ l₂ : List α} {a b : α} (h : (l₁ ++ a :: l₂).Nodup) (h1 : b ∉ l₁) (h2 : b ∉ l₂) :
    (l₁ ++ b :: l₂).Nodup := by
  rw [List.perm_middle.nodup_iff, List.nodup_cons] at h ⊢
  exact ⟨fun hb => (List.mem_append.mp hb).elim h1 h2, h.2⟩

/-- The least entry `m` of a full list gives way to a slower statement `o` that is not retained: what `m` covered, and what
was outside, is now covered by `o` or outside. -/
theorem slowCovered_evict {cap : Nat} {pre post : List Slow} {m o x : Slow}
    (hn : ((pre ++ m :: post).map (·.id)).Nodup) (hfull : (pre ++ m :: post).length = cap)
    (hmin : ∀ s ∈ pre ++ m :: post, m.max ≤ s.max) (hlt : m.max < o.max)
    (h : slowCovered cap (pre ++ m :: post) x) : slowCovered cap (pre ++ o :: post) x := by
  have hout : x.max ≤ m.max → (∀ r ∈ pre, r.id ≠ x.id) → (∀ r ∈ post, r.id ≠ x.id) →
      slowCovered cap (pre ++ o :: post) x := by
    intro hxm h1 h2
    have hxmax : x.max ≤ o.max := Nat.le_of_lt (Nat.lt_of_le_of_lt hxm hlt)
    by_cases hxo : x.id = o.id
    · exact Or.inl ⟨o, mem_mid.mpr (Or.inr (Or.inl rfl)), hxo.symm, hxmax⟩
    · refine Or.inr ⟨by simpa using hfull, fun r hr => ?_, fun r hr => ?_⟩ <;> rcases mem_mid.mp hr with hr | rfl | hr
      · exact h1 r hr
      · exact fun e => hxo e.symm
      · exact h2 r hr
      · exact Nat.le_trans hxm (hmin r (mem_mid.mpr (Or.inl hr)))
      · exact hxmax
      · exact Nat.le_trans hxm (hmin r (mem_mid.mpr (Or.inr (Or.inr hr))))
  rcases h with ⟨r, hr, hrid, hrmax⟩ | ⟨_, hnot, hle⟩
  · rcases mem_mid.mp hr with hr' | rfl | hr'
    · exact Or.inl ⟨r, mem_mid.mpr (Or.inl hr'), hrid, hrmax⟩
    · -- covered by `m`: no other entry has this id
      rw [List.map_append, List.map_cons, List.perm_middle.nodup_iff, List.nodup_cons] at hn
      exact hout hrmax (fun r' hr' e => hn.1 (List.mem_append_left _ (List.mem_map.mpr ⟨r', hr', e.trans hrid.symm⟩)))
        (fun r' hr' e => hn.1 (List.mem_append_right _ (List.mem_map.mpr ⟨r', hr', e.trans hrid.symm⟩)))
    · exact Or.inl ⟨r, mem_mid.mpr (Or.inr (Or.inr hr')), hrid, hrmax⟩
  · exact hout (hle m (mem_mid.mpr (Or.inr (Or.inl rfl)))) (fun r hr => hnot r (mem_mid.mpr (Or.inl hr)))
      (fun r hr => hnot r (mem_mid.mpr (Or.inr (Or.inr hr))))

theorem slowObserve_inv (cap : Nat) (l seen : List Slow) (o : Slow) (h : SlowInv cap l seen) :
    SlowInv cap (slowObserve cap l o) (seen ++ [o]) := by
  have hcov : ∀ {l'}, (∀ x ∈ seen, slowCovered cap l' x) → slowCovered cap l' o → ∀ x ∈ seen ++ [o], slowCovered cap l' x :=
    fun h1 h2 => List.forall_mem_append.mpr ⟨h1, List.forall_mem_singleton.mpr h2⟩
  fun_cases slowObserve cap l o
  next l' hm =>
    -- merged into the retained statement with the same id
    obtain ⟨pre, s, post, rfl, rfl, hid⟩ := slowMergeInto_some _ l' o hm
    have hge := Slow.merge_max_ge s o
    refine ⟨by simpa using h.len, by simpa [Slow.merge_id] using h.ids, hcov (fun x hx => ?_) ?_⟩
    · refine slowCovered_mono (mem_exchange (fun _ => ⟨rfl, Nat.le_refl _⟩) ⟨Slow.merge_id s o, hge.1⟩) (fun hfull => ?_)
        (h.cov x hx)
      exact ⟨by simpa using hfull, mem_exchange (fun _ => ⟨rfl, Nat.le_refl _⟩) ⟨(Slow.merge_id s o).symm, hge.1⟩⟩
    · exact Or.inl ⟨s.merge o, mem_mid.mpr (Or.inr (Or.inl rfl)), (Slow.merge_id s o).trans hid, hge.2⟩
  next hm hfull idx hf hlt =>
    -- full, and the statement with the smallest maximum is faster than `o`: it gives way
    have hnew := (slowMergeInto_none l o).mp hm
    obtain ⟨pre, m, post, rfl, rfl, hmin⟩ := slowFastest_spec hf
    simp only [List.getD_eq_getElem?_getD, List.getElem?_append_right (Nat.le_refl _), Nat.sub_self,
      List.getElem?_cons_zero, Option.getD_some, List.set_append_right _ _ (Nat.le_refl _), List.set_cons_zero] at hlt ⊢
    refine ⟨by simpa using h.len, ?_, hcov (fun x hx => slowCovered_evict h.ids hfull hmin hlt (h.cov x hx))
      (Or.inl ⟨o, mem_mid.mpr (Or.inr (Or.inl rfl)), rfl, Nat.le_refl _⟩)⟩
    have hids := h.ids
    rw [List.map_append, List.map_cons] at hids ⊢
    refine nodup_exchange hids (fun ho => ?_) (fun ho => ?_) <;> obtain ⟨r, hr, e⟩ := List.mem_map.mp ho
    · exact hnew r (mem_mid.mpr (Or.inl hr)) e
    · exact hnew r (mem_mid.mpr (Or.inr (Or.inr hr))) e
  next hm hfull idx hf hge =>
    -- full of statements none of which is faster than `o`: refused
    obtain ⟨pre, m, post, rfl, rfl, hmin⟩ := slowFastest_spec hf
    simp only [List.getD_eq_getElem?_getD, List.getElem?_append_right (Nat.le_refl _), Nat.sub_self,
      List.getElem?_cons_zero, Option.getD_some] at hge
    exact ⟨h.len, h.ids, hcov h.cov (Or.inr ⟨hfull, (slowMergeInto_none _ o).mp hm,
      fun r hr => Nat.le_trans (Nat.not_lt.mp hge) (hmin r hr)⟩)⟩
  next hm hfull hf =>
    -- capacity 0
    obtain rfl : l = [] := by cases l with | nil => rfl | cons => cases hf
    exact ⟨h.len, h.ids, hcov h.cov (Or.inr ⟨hfull, nofun, nofun⟩)⟩
  next hm hnotfull =>
    -- room: a new statement is appended
    have hnew := (slowMergeInto_none l o).mp hm
    refine ⟨List.length_append ▸ Nat.lt_of_le_of_ne h.len hnotfull, nodup_keys_append h.ids hnew, hcov (fun x hx => ?_)
      (Or.inl ⟨o, List.mem_append_right _ (List.mem_singleton.mpr rfl), rfl, Nat.le_refl _⟩)⟩
    exact slowCovered_mono (fun r hr => ⟨r, List.mem_append_left _ hr, rfl, Nat.le_refl _⟩)
      (fun hfull => absurd hfull hnotfull) (h.cov x hx)

theorem slowFold_inv (cap : Nat) (obs : List Slow) (l seen : List Slow) (h : SlowInv cap l seen) :
    SlowInv cap (obs.foldl (slowObserve cap) l) (seen ++ obs) := by
  induction obs generalizing l seen with
  | nil => simpa using h
  | cons o obs ih =>
    simpa [List.append_assoc] using ih _ _ (slowObserve_inv cap l seen o h)
