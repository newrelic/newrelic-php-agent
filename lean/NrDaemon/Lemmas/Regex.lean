import NrDaemon.Model.Regex
/-!
  Soundness facts about the backtracking matcher: whatever `Re.run` returns was produced by its continuation, called at
  a position between the starting position and the end of the input.  Hence every match lies inside the input and ends
  no earlier than it starts.  Then, for the rule models of `Model/Rules.lean` and `Model/Regex.lean` alike: splitting at '/'
  and joining again, what an each-segment rule reports, insertion sort by `eval_order`; and for the regex rules: a rule, and
  a chain of rules, that reports "unmatched" hands the name on unchanged.
-/

theorem Re.run_calls_k (inp : Array Char) (fuel : Nat) (re : Re) (pos : Nat) (caps : Caps)
    (k : Nat → Caps → Option (Nat × Caps)) (r : Nat × Caps) (hpos : pos ≤ inp.size)
    (h : Re.run inp fuel re pos caps k = some r) : ∃ p c, pos ≤ p ∧ p ≤ inp.size ∧ k p c = some r := by
  fun_induction Re.run inp fuel re pos caps k generalizing r
  -- `chr`, `any`, `cls`: one character consumed, then the continuation
  case case2 hlt _ | case5 hlt _ | case8 hlt _ => exact ⟨_, _, Nat.le_succ _, hlt, h⟩
  -- `star`, `opt` without an iteration, `bol`, `eol`: the continuation where we stand
  case case15 | case18 | case20 | case22 => exact ⟨_, _, Nat.le_refl _, hpos, h⟩
  -- `alt`, `opt`: one of the alternatives, with the same continuation
  case case12 hr ih | case17 hr ih => cases h; exact ih _ hpos hr
  case case13 _ ih => exact ih _ hpos h
  -- `seq`, `plus`: the second expression is the continuation of the first
  case case11 ih2 ih1 | case16 ih2 ih1 =>
    obtain ⟨p1, c1, h1, h2, h3⟩ := ih1 _ hpos h
    obtain ⟨p2, c2, h4, h5, h6⟩ := ih2 p1 c1 _ h2 h3
    exact ⟨p2, c2, Nat.le_trans h1 h4, h5, h6⟩
  -- `star` with an iteration: as `seq`, the continuation being guarded by progress
  case case14 hr ih2 ih1 =>
    cases h
    obtain ⟨p1, c1, h1, h2, h3⟩ := ih1 _ hpos hr
    simp only at h3
    split at h3
    · obtain ⟨p2, c2, h4, h5, h6⟩ := ih2 p1 c1 _ h2 h3
      exact ⟨p2, c2, Nat.le_trans h1 h4, h5, h6⟩
    · cases h3
  -- `grp`: the continuation records the group first
  case case19 ih =>
    obtain ⟨p1, c1, h1, h2, h3⟩ := ih _ hpos h
    exact ⟨p1, _, h1, h2, h3⟩
  all_goals cases h

theorem Re.matchAt_bounds (re : Re) (inp : Array Char) (start e : Nat) (c : Caps) (hs : start ≤ inp.size)
    (h : re.matchAt inp start = some (e, c)) : start ≤ e ∧ e ≤ inp.size := by
  obtain ⟨p, c', h1, h2, h3⟩ := Re.run_calls_k inp _ re start [] _ _ hs h
  cases h3
  exact ⟨h1, h2⟩

theorem Re.find_go_bounds (re : Re) (inp : Array Char) (fuel from_ s e : Nat) (c : Caps)
    (h : Re.find.go re inp fuel from_ = some (s, e, c)) : from_ ≤ s ∧ s ≤ e ∧ e ≤ inp.size := by
  fun_induction Re.find.go re inp fuel from_
  -- a match at `from_`; no match there: the search goes on one position further; the other branches return `none`
  case case3 hle _ _ hm => cases h; exact ⟨Nat.le_refl _, Re.matchAt_bounds re inp _ _ _ (Nat.le_of_not_gt hle) hm⟩
  case case4 ih => exact ⟨Nat.le_of_succ_le (ih h).1, (ih h).2⟩
  all_goals cases h

theorem Re.find_bounds (re : Re) (inp : Array Char) (from_ s e : Nat) (c : Caps)
    (h : re.find inp from_ = some (s, e, c)) : from_ ≤ s ∧ s ≤ e ∧ e ≤ inp.size :=
  Re.find_go_bounds re inp _ from_ s e c h

/-! ### each_segment: split at '/', apply, join -/

theorem splitSlash_go_spec (s cur : Str) :
    ∃ y ys, splitSlash.go s cur = y :: ys ∧ joinSlash (y :: ys) = cur.reverse ++ s := by
  induction s generalizing cur with
  | nil => exact ⟨_, _, rfl, by simp [joinSlash]⟩
  | cons c rest ih =>
    rw [splitSlash.go]
    split
    · next hc =>
      obtain ⟨y, ys, hg, hj⟩ := ih []
      -- `joinSlash (x :: y :: _)`, the equation for at least two segments
      exact ⟨_, _, by rw [hg], by rw [joinSlash.eq_3 _ _ (by simp), hj, eq_of_beq hc]; simp⟩
    · obtain ⟨y, ys, hg, hj⟩ := ih (c :: cur)
      exact ⟨y, ys, hg, by simpa using hj⟩

theorem joinSlash_splitSlash (s : Str) : joinSlash (splitSlash s) = s := by
  obtain ⟨y, ys, hg, hj⟩ := splitSlash_go_spec s []
  rw [splitSlash, hg, hj]; rfl

/-- the result an each-segment rule reports, for any per-segment function: matched iff it matched in some segment -/
theorem eachSegment_matched_iff (f : Str → RuleResult × Str) (segs : List Str) :
    (if (segs.map f).any (·.1 == .matched) then RuleResult.matched else .unmatched) = .matched ↔
      ∃ seg ∈ segs, (f seg).1 = .matched := by
  have flag : ∀ b : Bool, (if b then RuleResult.matched else .unmatched) = .matched ↔ b = true := by decide
  rw [flag]
  simp only [List.any_map, List.any_eq_true, Function.comp_apply, beq_iff_eq]

theorem eachSegment_unmatched (f : Str → RuleResult × Str) (hf : ∀ x, (f x).1 ≠ .matched → (f x).2 = x) (segs : List Str)
    (h : ¬ ∃ seg ∈ segs, (f seg).1 = .matched) : (segs.map f).map (·.2) = segs := by
  rw [List.map_map]
  exact (List.map_congr_left fun x hx => hf x fun hm => h ⟨x, hx, hm⟩).trans (List.map_id _)

/-! ### "unmatched" means unchanged -/

theorem replaceFirstX_not_matched (r : RuleX) (x : Str) (h : (replaceFirstX r x).1 ≠ .matched) : (replaceFirstX r x).2 = x := by
  revert h
  fun_cases replaceFirstX r x <;> simp

theorem applyRuleX_unmatched (r : RuleX) (s : Str) (h : (applyRuleX r s).1 = .unmatched) : (applyRuleX r s).2 = s := by
  revert h
  fun_cases applyRuleX r s
  case case1 | case4 => exact nofun          -- `ignore` with a match, `replace_all` with a match: they report "ignore" / "matched"
  case case6 parts =>                        -- `each_segment`
    intro h
    have hnone : ¬ ∃ seg ∈ splitSlash s, (replaceFirstX r seg).1 = .matched := fun hex =>
      absurd (((eachSegment_matched_iff _ _).mpr hex).symm.trans h) (by decide)
    exact (congrArg joinSlash (eachSegment_unmatched _ (replaceFirstX_not_matched r) _ hnone)).trans (joinSlash_splitSlash s)
  case case7 => exact fun h => replaceFirstX_not_matched r s (by rw [h]; decide)   -- the plain rule
  all_goals exact fun _ => rfl               -- `ignore` / `replace_all` without a match: the name is returned as it is

/-- a whole chain reports "unmatched" only if no rule matched (`m`: an earlier one has) -/
theorem applyChainX_unmatched (rs : List RuleX) (s out : Str) (m : Bool) (h : applyChainX rs s m = (.unmatched, out)) :
    m = false ∧ out = s := by
  induction rs generalizing s m with
  | nil => cases m <;> simp_all [applyChainX]
  | cons r rest ih =>
    rw [applyChainX] at h
    split at h
    · cases h
    · split at h
      · cases h
      · exact absurd (ih _ _ h).1 (by decide)
    · next o hr =>
      have ho : o = s := by simpa [hr] using applyRuleX_unmatched r s (by rw [hr])
      exact ho ▸ ih _ _ h

/-! ### `sort.Sort` by `eval_order` -/

/-- insertion sort by an integer key, for any function that inserts the way `insertByOrder` and `insertByOrderX` do -/
theorem foldr_insert_sorted {α : Type} (key : α → Int) (ins : α → List α → List α) (h0 : ∀ r, ins r [] = [r])
    (h1 : ∀ r x xs, ins r (x :: xs) = if key r < key x then r :: x :: xs else x :: ins r xs) (rs : List α) :
    (rs.foldr ins []).Pairwise (fun a b => key a ≤ key b) := by
  have perm : ∀ r l, (ins r l).Perm (r :: l) := fun r l => by
    induction l with
    | nil => rw [h0]
    | cons x xs ih =>
      rw [h1]
      split
      · exact .refl _
      · exact (ih.cons x).trans (.swap ..)
  induction rs with
  | nil => exact .nil
  | cons r rs ih =>
    rw [List.foldr_cons]
    generalize rs.foldr ins [] = l at ih ⊢
    induction l with
    | nil => rw [h0]; exact List.pairwise_singleton ..
    | cons x xs ihx =>
      obtain ⟨hx, hxs⟩ := List.pairwise_cons.mp ih
      rw [h1]
      split
      · next hlt =>
        refine .cons (fun y hy => ?_) ih
        rcases List.mem_cons.mp hy with rfl | hy
        · exact Int.le_of_lt hlt
        · exact Int.le_trans (Int.le_of_lt hlt) (hx y hy)
      · next hge =>
        refine .cons (fun y hy => ?_) (ihx hxs)
        rcases List.mem_cons.mp ((perm r xs).mem_iff.mp hy) with rfl | hy
        · exact Int.not_lt.mp hge
        · exact hx y hy
