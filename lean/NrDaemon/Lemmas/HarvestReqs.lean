import NrDaemon.Lemmas.Proc
/-!
  What a harvest does, path by path (`harvestAllPart`, `harvestTypesPart`): which requests it makes, what it leaves in the
  run and application tables.
-/
open Gen.Limits

theorem zero_capacity_add (r : Res) (e : Ev) (hc : r.cap = 0) (he : r.evs = #[]) : (r.add e).evs = #[] ∧ (r.add e).cap = 0 := by
  unfold Res.add resAddArr
  simp [hc, he]

theorem txnPayloads_cat (split : Bool) (r : Res) : ∀ x ∈ txnPayloads split r, x.1 = Cat.txnEv := by
  intro x hx
  unfold txnPayloads at hx
  split at hx
  · simp only [List.mem_cons, List.mem_nil_iff, or_false] at hx
    rcases hx with h | h <;> rw [h]
  · simp only [List.mem_singleton] at hx
    rw [hx]

/-- an empty reservoir is below the split threshold -/
theorem txnPayloads_empty (split : Bool) (r : Res) (h : r.evs = #[]) : txnPayloads split r = [(.txnEv, .events r)] := by
  simp [txnPayloads, h, MaxTxnEvents]

theorem settleGroup_tables (s : PState) (gid : Nat) :
    (settleGroup s gid).1.apps = s.apps ∧ (settleGroup s gid).1.runs = s.runs := by
  fun_cases settleGroup s gid <;> exact ⟨rfl, rfl⟩

/-! ### one guarded branch of the per-category path

`harvestTypesPart` is a chain of six `evStep`s closed by `finishTypes`.  What is proved of the chain is proved link by link:
`evStep_mem` and `evStep_tables` carry a fact about the requests / the two tables from the accumulator before a branch to the
accumulator after it, `evStep_keep` and `evStep_set` read one component of the harvest across a branch. -/

theorem evStep_mem {P : Req → Prop} {acc : HAcc} {a : HArgs} {on : Bool} {pl : List (Cat × Payload)} {upd : HarvestM → HarvestM}
    (hnew : on = true → ∀ r, ReqFrom a r → (r.cat, r.payload) ∈ pl → r.payload.isEmpty = false → P r)
    (hacc : ∀ r ∈ acc.reqs, P r) : ∀ r ∈ (evStep acc a on pl upd).reqs, P r := by
  unfold evStep
  split
  · next hon =>
    exact List.forall_mem_append.mpr ⟨hacc, fun r h =>
      hnew hon r (considerMany_mem h).1 (considerMany_mem h).2.1 (considerMany_mem h).2.2⟩
  · exact hacc

theorem evStep_tables {s0 : PState} {acc : HAcc} {a : HArgs} {on : Bool} {pl : List (Cat × Payload)} {upd : HarvestM → HarvestM}
    (hacc : acc.s.apps = s0.apps ∧ acc.s.runs = s0.runs) :
    (evStep acc a on pl upd).s.apps = s0.apps ∧ (evStep acc a on pl upd).s.runs = s0.runs := by
  unfold evStep
  split
  · exact ⟨(considerMany_spec _ _ _).2.2.1.trans hacc.1, (considerMany_spec _ _ _).2.2.2.trans hacc.2⟩
  · exact hacc

theorem evStep_keep {β : Type} (f : HarvestM → β) (acc : HAcc) (a : HArgs) (on : Bool) (pl : List (Cat × Payload))
    (upd : HarvestM → HarvestM) (hk : ∀ h, f (upd h) = f h) : f (evStep acc a on pl upd).h = f acc.h := by
  unfold evStep; cases on <;> simp [hk]

theorem evStep_set {β : Type} (f : HarvestM → β) (v : β) (acc : HAcc) (a : HArgs) (on : Bool) (pl : List (Cat × Payload))
    (upd : HarvestM → HarvestM) (hs : ∀ h, f (upd h) = v) : f (evStep acc a on pl upd).h = if on then v else f acc.h := by
  unfold evStep; cases on <;> simp [hs]

theorem finishTypes_reqs (acc : HAcc) (runId : String) (run : RunM) (app' : AppM) (gid : Nat) (a : HArgs) :
    (finishTypes acc runId run app' gid a).2 = acc.reqs := by
  unfold finishTypes
  split <;> rfl

theorem finishTypes_tables (acc : HAcc) (runId : String) (run : RunM) (app' : AppM) (gid : Nat) (a : HArgs) :
    (finishTypes acc runId run app' gid a).1.apps = (setApp acc.s run.app app').apps ∧
    (finishTypes acc runId run app' gid a).1.runs = (setRun acc.s runId { run with h := acc.h }).runs := by
  unfold finishTypes
  split <;> exact ⟨rfl, rfl⟩

/-! ### the per-category path -/

/-- where every request of the per-category path comes from: the default-data block, or an event category whose own
limit is not zero; each carries the harvest's parameters and a non-empty container -/
theorem harvestTypesPart_mem (s : PState) (runId : String) (run : RunM) (app : AppM) (cfg : RunCfg) (mask : Nat) (a : HArgs) :
    ∀ r ∈ (harvestTypesPart s runId run app cfg mask a).2, ReqFrom a r ∧ r.payload.isEmpty = false ∧
      (r.cat ∈ [Cat.metrics, Cat.errors, Cat.slowSql, Cat.traces, Cat.packages] ∨
       (r.cat = Cat.customEv ∧ cfg.limCustom ≠ 0) ∨ (r.cat = Cat.errorEv ∧ cfg.limErr ≠ 0) ∨
       (r.cat = Cat.txnEv ∧ cfg.limTxn ≠ 0) ∨ (r.cat = Cat.spanEv ∧ cfg.limSpan ≠ 0) ∨ (r.cat = Cat.logEv ∧ cfg.limLog ≠ 0)) := by
  have lim : ∀ {b : Bool} {n : Nat}, (b && (n != 0)) = true → n ≠ 0 := by
    intro b n h
    simp only [Bool.and_eq_true, bne_iff_ne, ne_eq] at h
    exact h.2
  have cat : ∀ {r : Req} {c : Cat} {p : Payload}, (r.cat, r.payload) ∈ [(c, p)] → r.cat = c :=
    fun h => congrArg Prod.fst (List.mem_singleton.mp h)
  unfold harvestTypesPart
  rw [finishTypes_reqs]
  -- the six branches, last first
  refine evStep_mem (fun hon r hf hm hne => ⟨hf, hne, .inr (.inr (.inr (.inr (.inr ⟨cat hm, lim hon⟩))))⟩) ?_
  refine evStep_mem (fun hon r hf hm hne => ⟨hf, hne, .inr (.inr (.inr (.inr (.inl ⟨cat hm, lim hon⟩))))⟩) ?_
  refine evStep_mem (fun hon r hf hm hne => ⟨hf, hne, .inr (.inr (.inr (.inl ⟨txnPayloads_cat _ _ _ hm, lim hon⟩)))⟩) ?_
  refine evStep_mem (fun hon r hf hm hne => ⟨hf, hne, .inr (.inr (.inl ⟨cat hm, lim hon⟩))⟩) ?_
  refine evStep_mem (fun hon r hf hm hne => ⟨hf, hne, .inr (.inl ⟨cat hm, lim hon⟩)⟩) ?_
  refine evStep_mem (fun _ r hf hm hne => ⟨hf, hne, .inl (List.mem_map_of_mem (f := Prod.fst) hm)⟩) ?_
  exact fun r hr => absurd hr List.not_mem_nil

theorem harvestTypesPart_state (s : PState) (runId : String) (run : RunM) (app : AppM) (cfg : RunCfg) (mask : Nat) (a : HArgs) :
    ∃ h' app',
      (∀ r, getRun (harvestTypesPart s runId run app cfg mask a).1 r = if r = runId then some { run with h := h' } else getRun s r) ∧
      (∀ k, getApp (harvestTypesPart s runId run app cfg mask a).1 k = if k = run.app then some app' else getApp s k) ∧
      app'.state = app.state ∧ app'.cfg = app.cfg ∧
      h'.custom = (if (hasBit mask 32 && cfg.limCustom != 0) then Res.new cfg.limCustom else run.h.custom) ∧
      h'.errEv = (if (hasBit mask 64 && cfg.limErr != 0) then Res.new cfg.limErr else run.h.errEv) ∧
      h'.txn = (if (hasBit mask 16 && cfg.limTxn != 0) then Res.new cfg.limTxn else run.h.txn) ∧
      h'.span = (if (hasBit mask 128 && cfg.limSpan != 0) then Res.new cfg.limSpan else run.h.span) ∧
      h'.log = (if (hasBit mask 256 && cfg.limLog != 0) then Res.new cfg.limLog else run.h.log) := by
  unfold harvestTypesPart
  -- `h'` is the harvest after the six branches, `app'` the application with its seen packages updated if the default-data
  -- branch ran; both are read off by unification from what `finishTypes` writes back
  apply Exists.intro
  apply Exists.intro
  refine ⟨fun r => ?_, fun k => ?_, ?_, ?_, ?_, ?_, ?_, ?_, ?_⟩
  -- no branch touches the tables, `finishTypes` writes the run and the application back
  · refine ((getRun_congr (finishTypes_tables _ _ _ _ _ _).2 r).trans (getRun_setRun _ _ _ _)).trans ?_
    refine congrArg (ite _ _) (getRun_congr ?_ r)
    exact (evStep_tables (evStep_tables (evStep_tables (evStep_tables (evStep_tables (evStep_tables ⟨rfl, rfl⟩)))))).2
  · refine ((getApp_congr (finishTypes_tables _ _ _ _ _ _).1 k).trans (getApp_setApp _ _ _ _)).trans ?_
    refine congrArg (ite _ _) (getApp_congr ?_ k)
    exact (evStep_tables (evStep_tables (evStep_tables (evStep_tables (evStep_tables (evStep_tables ⟨rfl, rfl⟩)))))).1
  · split <;> rfl
  · split <;> rfl
  -- each reservoir is written by its own branch only
  · rw [evStep_keep HarvestM.custom, evStep_keep HarvestM.custom, evStep_keep HarvestM.custom, evStep_keep HarvestM.custom,
        evStep_set HarvestM.custom (Res.new cfg.limCustom), evStep_keep HarvestM.custom]
    all_goals (intro _; rfl)
  · rw [evStep_keep HarvestM.errEv, evStep_keep HarvestM.errEv, evStep_keep HarvestM.errEv,
        evStep_set HarvestM.errEv (Res.new cfg.limErr), evStep_keep HarvestM.errEv, evStep_keep HarvestM.errEv]
    all_goals (intro _; rfl)
  · rw [evStep_keep HarvestM.txn, evStep_keep HarvestM.txn, evStep_set HarvestM.txn (Res.new cfg.limTxn),
        evStep_keep HarvestM.txn, evStep_keep HarvestM.txn, evStep_keep HarvestM.txn]
    all_goals (intro _; rfl)
  · rw [evStep_keep HarvestM.span, evStep_set HarvestM.span (Res.new cfg.limSpan), evStep_keep HarvestM.span,
        evStep_keep HarvestM.span, evStep_keep HarvestM.span, evStep_keep HarvestM.span]
    all_goals (intro _; rfl)
  · rw [evStep_set HarvestM.log (Res.new cfg.limLog), evStep_keep HarvestM.log, evStep_keep HarvestM.log,
        evStep_keep HarvestM.log, evStep_keep HarvestM.log, evStep_keep HarvestM.log]
    all_goals (intro _; rfl)

/-! ### the combined path -/

/-- `App.filterPhpPackages` on the packages a harvest holds: (the packages seen afterwards, those to report now) -/
def pkgSplit (app : AppM) (h : HarvestM) : List Pkg × List Pkg :=
  match h.pkgs with
  | none => (app.seenPkgs, [])
  | some l => filterPkgs app.seenPkgs l

/-- the containers `harvestAll` hands to the sender, in program order -/
def allPayloads (app : AppM) (h : HarvestM) (a : HArgs) : List (Cat × Payload) :=
  [(.metrics, .metrics (applyRulesM (createFinalMetrics h).metrics a.rules) (createFinalMetrics h).touched (createFinalMetrics h).metrics),
   (.customEv, .events h.custom), (.errorEv, .events h.errEv), (.errors, .errors h.errors), (.slowSql, .slow h.slow),
   (.traces, .traces h.trSyn h.trForce h.trReg)] ++ txnPayloads a.split h.txn ++
  [(.spanEv, .events h.span), (.logEv, .events h.log), (.packages, .pkgs (pkgSplit app h).2)]

theorem allPayloads_cat {app : AppM} {h : HarvestM} {a : HArgs} {x : Cat × Payload} (hx : x ∈ allPayloads app h a) :
    (x.1 = .customEv → x.2 = .events h.custom) ∧ (x.1 = .errorEv → x.2 = .events h.errEv) ∧
    (x.1 = .spanEv → x.2 = .events h.span) ∧ (x.1 = .logEv → x.2 = .events h.log) ∧
    (x.1 = .txnEv → x ∈ txnPayloads a.split h.txn) ∧
    (x.1 = .metrics → x.2 = .metrics (applyRulesM (createFinalMetrics h).metrics a.rules) (createFinalMetrics h).touched
                                    (createFinalMetrics h).metrics) := by
  simp only [allPayloads, List.mem_append, List.mem_cons, List.mem_nil_iff, or_false] at hx
  rcases hx with ((rfl | rfl | rfl | rfl | rfl | rfl) | hx) | rfl | rfl | rfl
  -- one of the transaction-event payloads (whole or split in two)
  case inl.inr => simp only [txnPayloads_cat _ _ x hx, hx, reduceCtorEq, false_implies, implies_true, and_self]
  -- a listed container: the implication for its own category is an identity, the others have a false premise
  all_goals simp only [reduceCtorEq, false_implies, implies_true, and_self]

theorem harvestAllPart_mem (s : PState) (runId : String) (run : RunM) (app : AppM) (cfg : RunCfg) (a : HArgs) :
    ∀ r ∈ (harvestAllPart s runId run app cfg a).2,
      ReqFrom a r ∧ (r.cat, r.payload) ∈ allPayloads app run.h a ∧ r.payload.isEmpty = false := by
  intro r hr
  unfold harvestAllPart at hr
  dsimp only at hr
  -- (stated first and compared afterwards: with the goal as expected type the unifier has to see through `allPayloads`)
  have h := considerMany_mem hr
  exact h

theorem harvestAllPart_state (s : PState) (runId : String) (run : RunM) (app : AppM) (cfg : RunCfg) (a : HArgs) :
    (∀ r, getRun (harvestAllPart s runId run app cfg a).1 r = if r = runId then some { run with h := HarvestM.new cfg } else getRun s r) ∧
    (∀ k, getApp (harvestAllPart s runId run app cfg a).1 k =
      if k = run.app then some { app with seenPkgs := (pkgSplit app run.h).1 } else getApp s k) := by
  unfold harvestAllPart
  dsimp only
  refine ⟨fun r => ?_, fun k => ?_⟩
  · refine (getRun_congr ?_ r).trans (getRun_setRun _ _ _ _)
    exact (considerMany_spec _ _ _).2.2.2
  · refine (getApp_congr ?_ k).trans (getApp_setApp _ _ _ _)
    exact (considerMany_spec _ _ _).2.2.1

theorem harvestByType_state (s : PState) (runId : String) (run : RunM) (app : AppM) (cfg : RunCfg) (mask : Nat) (a : HArgs) :
    ∃ h' app',
      (∀ r, getRun (harvestByType s runId run app cfg mask a).1 r = if r = runId then some { run with h := h' } else getRun s r) ∧
      (∀ k, getApp (harvestByType s runId run app cfg mask a).1 k = if k = run.app then some app' else getApp s k) ∧
      app'.state = app.state ∧ app'.cfg = app.cfg := by
  have hall := harvestAllPart_state s runId run app cfg a
  obtain ⟨h', app', h1, h2, h3, h4, _⟩ := harvestTypesPart_state s runId run app cfg mask a
  unfold harvestByType
  -- (`split` would abstract the test out of the whole statement)
  by_cases hm : (mask % 1024 == maskAll) = true
  · rw [if_pos hm]; exact ⟨_, _, hall.1, hall.2, rfl, rfl⟩
  · rw [if_neg hm]; exact ⟨h', app', h1, h2, h3, h4⟩
