import NrDaemon.Model.GoHeap
/-!
  Invariant lemmas for the transcription of Go's container/heap.

  The heap order is reasoned about on the total function `keyAt key a : Nat → Int` (the key at an index, `0` outside the
  array) and on the relation `Child p c`: the invariants (`Ordered`, `DownInv`, `UpInv`) carry no bounds proof, a swap of the array is `swapF` of the
  function, and the index arithmetic stays in the lemmas about `Child`.  `heapFrom_iff` ties this to `HeapFrom`.
-/
namespace GoHeap

variable {α : Type}

/-- pairs (parent c, c) with parent ≥ lo are ordered, within the first n slots -/
def HeapFrom (key : α → Int) (a : Array α) (n lo : Nat) : Prop :=
  ∀ (hn : n ≤ a.size) c (hc : c < n), 0 < c → lo ≤ (c - 1) / 2 →
    key (a[(c - 1) / 2]'(by omega)) ≤ key (a[c]'(by omega))

def IsHeap (key : α → Int) (a : Array α) : Prop := HeapFrom key a a.size 0

theorem isHeap_empty (key : α → Int) : IsHeap key #[] := fun _ c hc => absurd hc (Nat.not_lt_zero c)

theorem heapFrom_size_congr (key : α → Int) (a : Array α) (n m lo : Nat) (e : n = m)
    (h : HeapFrom key a n lo) : HeapFrom key a m lo := by subst e; exact h

/-! ### keys as a function of the index -/

variable (key : α → Int)

def keyAt (a : Array α) (k : Nat) : Int := if h : k < a.size then key a[k] else 0

theorem keyAt_of_lt {a : Array α} {k : Nat} (h : k < a.size) : keyAt key a k = key a[k] := dif_pos h

theorem keyAt_lt_iff {a : Array α} {i j : Nat} {hi : i < a.size} {hj : j < a.size} :
    keyAt key a i < keyAt key a j ↔ key a[i] < key a[j] := by rw [keyAt_of_lt key hi, keyAt_of_lt key hj]

def swapF (f : Nat → Int) (i j k : Nat) : Int := if k = i then f j else if k = j then f i else f k

theorem swapF_left (f : Nat → Int) (i j : Nat) : swapF f i j i = f j := if_pos rfl

theorem swapF_right (f : Nat → Int) (i j : Nat) : swapF f i j j = f i := by
  unfold swapF; split
  · next h => rw [h]
  · exact if_pos rfl

theorem swapF_of_ne (f : Nat → Int) {i j k : Nat} (hi : k ≠ i) (hj : k ≠ j) : swapF f i j k = f k := by
  rw [swapF, if_neg hi, if_neg hj]

theorem keyAt_swap (a : Array α) (i j : Nat) (hi : i < a.size) (hj : j < a.size) :
    keyAt key (a.swap i j hi hj) = swapF (keyAt key a) i j := by
  funext k
  by_cases h1 : k = i
  · rw [h1, swapF_left, keyAt_of_lt key hj, keyAt_of_lt key (by rwa [Array.size_swap]), Array.getElem_swap_left]
  · by_cases h2 : k = j
    · rw [h2, swapF_right, keyAt_of_lt key hi, keyAt_of_lt key (by rwa [Array.size_swap]), Array.getElem_swap_right]
    · rw [swapF_of_ne _ h1 h2]
      by_cases hk : k < a.size
      · rw [keyAt_of_lt key hk, keyAt_of_lt key (by rwa [Array.size_swap]), Array.getElem_swap_of_ne h1 h2]
      · rw [keyAt, keyAt, dif_neg hk, dif_neg (by rwa [Array.size_swap])]

theorem keyAt_push (a : Array α) (x : α) {k : Nat} (hk : k < a.size) : keyAt key (a.push x) k = keyAt key a k := by
  rw [keyAt_of_lt key hk, keyAt_of_lt key (Array.size_push x ▸ Nat.lt_succ_of_lt hk), Array.getElem_push_lt hk]

theorem keyAt_pop (a : Array α) {k : Nat} (hk : k < a.size - 1) : keyAt key a.pop k = keyAt key a k := by
  rw [keyAt_of_lt key (Array.size_pop ▸ hk), keyAt_of_lt key (Nat.lt_of_lt_of_le hk (Nat.sub_le ..)), Array.getElem_pop]

/-- `c` is a child of `p` in the implicit binary tree.  Of the shape of the tree the invariant proofs use only that a child
lies after its parent (`Child.lt`) and has no other parent (`Child.parent_unique`). -/
def Child (p c : Nat) : Prop := c = 2 * p + 1 ∨ c = 2 * p + 2

theorem Child.first_le {p c : Nat} (h : Child p c) : 2 * p + 1 ≤ c := by
  rcases h with rfl | rfl
  · exact Nat.le_refl _
  · exact Nat.le_succ _

theorem Child.lt {p c : Nat} (h : Child p c) : p < c :=
  Nat.lt_of_le_of_lt (Nat.le_mul_of_pos_left p (by decide)) h.first_le

theorem Child.parent_eq {p c : Nat} (h : Child p c) : (c - 1) / 2 = p := by
  rcases h with rfl | rfl
  · exact Nat.mul_div_cancel_left p (by decide)
  · show (2 * p + 1) / 2 = p
    rw [Nat.mul_add_div (by decide)]; rfl

theorem Child.parent_unique {p q c : Nat} (h : Child p c) (h' : Child q c) : p = q :=
  h.parent_eq.symm.trans h'.parent_eq

theorem child_parent {c : Nat} (h : 0 < c) : Child ((c - 1) / 2) c := by unfold Child; omega

def Ordered (f : Nat → Int) (n lo : Nat) : Prop := ∀ p c, lo ≤ p → c < n → Child p c → f p ≤ f c

theorem heapFrom_iff (a : Array α) (n lo : Nat) (hn : n ≤ a.size) :
    HeapFrom key a n lo ↔ Ordered (keyAt key a) n lo := by
  constructor
  · intro h p c hp hc hpc
    have := h hn c hc (Nat.zero_lt_of_lt hpc.lt) (by rwa [hpc.parent_eq])
    rw [keyAt_of_lt key (Nat.lt_of_lt_of_le (Nat.lt_trans hpc.lt hc) hn), keyAt_of_lt key (Nat.lt_of_lt_of_le hc hn)]
    simpa only [hpc.parent_eq] using this
  · intro h _ c hc hc0 hlo
    have := h ((c - 1) / 2) c hlo hc (child_parent hc0)
    rwa [keyAt_of_lt key, keyAt_of_lt key] at this

theorem isHeap_iff (a : Array α) : IsHeap key a ↔ Ordered (keyAt key a) a.size 0 :=
  heapFrom_iff key a a.size 0 (Nat.le_refl _)

theorem Ordered.congr {f g : Nat → Int} {n lo : Nat} (h : Ordered f n lo) (e : ∀ k, k < n → g k = f k) :
    Ordered g n lo := by
  intro p c hp hc hpc
  rw [e p (Nat.lt_trans hpc.lt hc), e c hc]
  exact h p c hp hc hpc

/-! ### down -/

/-- loop invariant of `down` with the hole at `i`: every pair whose parent is not `i` is ordered, and so is each child of `i`
with the parent of `i` -/
def DownInv (f : Nat → Int) (n lo i : Nat) : Prop :=
  lo ≤ i ∧
  (∀ p c, lo ≤ p → c < n → Child p c → p ≠ i → f p ≤ f c) ∧
  (∀ p c, lo ≤ p → c < n → Child p i → Child i c → f p ≤ f c)

/-- a parent `i` that nothing above constrains: the state in which `heap.Init` and `heap.Pop` call `down` -/
theorem DownInv.of_ordered {f : Nat → Int} {n i : Nat} (h : ∀ p c, i < p → c < n → Child p c → f p ≤ f c) :
    DownInv f n i i :=
  ⟨Nat.le_refl _, fun p c hp hc hpc hpi => h p c (Nat.lt_of_le_of_ne hp (Ne.symm hpi)) hc hpc,
   fun _ _ hp _ hpi _ => absurd hpi.lt (Nat.not_lt.mpr hp)⟩

theorem DownInv.done {f : Nat → Int} {n lo i : Nat} (h : DownInv f n lo i)
    (hi : ∀ c, c < n → Child i c → f i ≤ f c) : Ordered f n lo := by
  intro p c hp hc hpc
  by_cases hpi : p = i
  · rw [hpi] at hpc ⊢; exact hi c hc hpc
  · exact h.2.1 p c hp hc hpc hpi

/-- the hole moves from `i` to its least child `j` -/
theorem DownInv.swap {f : Nat → Int} {n lo i j : Nat} (h : DownInv f n lo i) (hj : j < n) (hij : Child i j)
    (hmin : ∀ c, c < n → Child i c → f j ≤ f c) (hlt : f j < f i) : DownInv (swapF f i j) n lo j := by
  obtain ⟨hlo, hA, hB⟩ := h
  refine ⟨Nat.le_trans hlo (Nat.le_of_lt hij.lt), fun p c hp hc hpc hpj => ?_, fun p c _ hc hpj hjc => ?_⟩
  · by_cases hpi : p = i
    · rw [hpi] at hpc ⊢
      rw [swapF_left]
      by_cases hcj : c = j
      · rw [hcj, swapF_right]; exact Int.le_of_lt hlt
      · rw [swapF_of_ne f (Nat.ne_of_gt hpc.lt) hcj]; exact hmin c hc hpc
    · rw [swapF_of_ne f hpi hpj]
      by_cases hci : c = i
      · rw [hci] at hpc ⊢
        rw [swapF_left]; exact hB p j hp hj hpc hij
      · rw [swapF_of_ne f hci fun hcj => hpi (hpc.parent_unique (hcj ▸ hij))]; exact hA p c hp hc hpc hpi
  · rw [hpj.parent_unique hij, swapF_left,
      swapF_of_ne f (Nat.ne_of_gt (Nat.lt_trans hij.lt hjc.lt)) (Nat.ne_of_gt hjc.lt)]
    exact hA j c (Nat.le_trans hlo (Nat.le_of_lt hij.lt)) hc hjc (Nat.ne_of_gt hij.lt)

theorem minChild_child (a : Array α) (i n : Nat) (hn : n ≤ a.size) (h1 : 2 * i + 1 < n) :
    Child i (minChild key a i n hn h1) :=
  (minChild_cases key a i n hn h1).imp_right And.left

theorem keyAt_minChild_le (a : Array α) (i n : Nat) (hn : n ≤ a.size) (h1 : 2 * i + 1 < n)
    (c : Nat) (hc : c < n) (hic : Child i c) : keyAt key a (minChild key a i n hn h1) ≤ keyAt key a c := by
  fun_cases minChild key a i n hn h1
  next h2 hlt =>      -- two children, the second the lesser
    rcases hic with rfl | rfl
    · exact Int.le_of_lt ((keyAt_lt_iff key).mpr hlt)
    · exact Int.le_refl _
  next h2 hge =>      -- two children, the first the lesser
    rcases hic with rfl | rfl
    · exact Int.le_refl _
    · exact Int.not_lt.mp (mt (keyAt_lt_iff key).mp hge)
  next h2 =>          -- one child
    rcases hic with rfl | rfl
    · exact Int.le_refl _
    · exact absurd hc h2

theorem down_ordered (a : Array α) (i n lo : Nat) (hn : n ≤ a.size)
    (h : DownInv (keyAt key a) n lo i) : Ordered (keyAt key (down key a i n hn)) n lo := by
  fun_induction down key a i n hn
  next a i hn h1 hj hlt ih =>
    rw [keyAt_swap] at ih
    exact ih (h.swap hj (minChild_child key a i n hn h1) (keyAt_minChild_le key a i n hn h1) ((keyAt_lt_iff key).mpr hlt))
  next a i hn h1 hj hlt =>
    exact h.done fun c hc hic => Int.le_trans (Int.not_lt.mp (mt (keyAt_lt_iff key).mp hlt))
      (keyAt_minChild_le key a i n hn h1 c hc hic)
  next a i hn h1 => exact h.done fun c hc hic => absurd (Nat.lt_of_le_of_lt hic.first_le hc) h1

/-! ### up -/

/-- loop invariant of `up` with the hole at `j`: every pair whose child is not `j` is ordered, and so is each child of `j`
with the parent of `j` -/
def UpInv (f : Nat → Int) (n j : Nat) : Prop :=
  (∀ p c, c < n → Child p c → c ≠ j → f p ≤ f c) ∧
  (∀ p c, c < n → Child p j → Child j c → f p ≤ f c)

theorem UpInv.done {f : Nat → Int} {n j : Nat} (h : UpInv f n j) (hj : ∀ p, Child p j → f p ≤ f j) :
    Ordered f n 0 := by
  intro p c _ hc hpc
  by_cases hcj : c = j
  · rw [hcj] at hpc ⊢; exact hj p hpc
  · exact h.1 p c hc hpc hcj

/-- the hole moves from `j` to its parent `i` -/
theorem UpInv.swap {f : Nat → Int} {n i j : Nat} (h : UpInv f n j) (hij : Child i j) (hlt : f j < f i) :
    UpInv (swapF f i j) n i := by
  obtain ⟨hA, hB⟩ := h
  refine ⟨fun p c hc hpc hci => ?_, fun p c hc hpi hic => ?_⟩
  · by_cases hcj : c = j
    · rw [hcj] at hpc ⊢
      rw [hpc.parent_unique hij, swapF_left, swapF_right]; exact Int.le_of_lt hlt
    · rw [swapF_of_ne f hci hcj]
      by_cases hpi : p = i
      · rw [hpi] at hpc ⊢
        rw [swapF_left]; exact Int.le_trans (Int.le_of_lt hlt) (hA i c hc hpc hcj)
      · by_cases hpj : p = j
        · rw [hpj] at hpc ⊢
          rw [swapF_right]; exact hB i c hc hij hpc
        · rw [swapF_of_ne f hpi hpj]; exact hA p c hc hpc hcj
  · rw [swapF_of_ne f (Nat.ne_of_lt hpi.lt) (Nat.ne_of_lt (Nat.lt_trans hpi.lt hij.lt))]
    have hpi' := hA p i (Nat.lt_trans hic.lt hc) hpi (Nat.ne_of_lt hij.lt)
    by_cases hcj : c = j
    · rw [hcj, swapF_right]; exact hpi'
    · rw [swapF_of_ne f (Nat.ne_of_gt hic.lt) hcj]; exact Int.le_trans hpi' (hA i c hc hic hcj)

theorem up_ordered (a : Array α) (j : Nat) (hj : j < a.size) (h : UpInv (keyAt key a) a.size j) :
    Ordered (keyAt key (up key a j hj)) a.size 0 := by
  fun_induction up key a j hj
  next a j hj h0 hlt ih =>
    rw [Array.size_swap, keyAt_swap] at ih
    exact ih (h.swap (child_parent h0) ((keyAt_lt_iff key).mpr hlt))
  next a j hj h0 hlt =>
    refine h.done fun p hp => ?_
    simp only [hp.parent_eq] at hlt
    exact Int.not_lt.mp (mt (keyAt_lt_iff key).mp hlt)
  next a j hj h0 => exact h.done fun p hp => absurd (Nat.zero_lt_of_lt hp.lt) h0

/-! ### Init / Push / Pop -/

theorem size_heapInit (a : Array α) : (heapInit key a).size = a.size := size_initLoop key a _

theorem size_heapPush (a : Array α) (x : α) : (heapPush key a x).size = a.size + 1 := by
  rw [heapPush, size_up, Array.size_push]

theorem size_heapPop (a : Array α) (h : 0 < a.size) : (heapPop key a h).size = a.size - 1 := by
  rw [heapPop, Array.size_pop, size_down, Array.size_swap]

theorem initLoop_ordered (a : Array α) (k : Nat) (h : Ordered (keyAt key a) a.size k) :
    Ordered (keyAt key (initLoop key a k)) a.size 0 := by
  induction k generalizing a with
  | zero => exact h
  | succ k ih =>
    have hd := down_ordered key a k a.size k (Nat.le_refl _) (.of_ordered fun p c hp => h p c hp)
    have := ih _ (by rwa [size_down])
    rwa [size_down] at this

theorem heapInit_isHeap (a : Array α) : IsHeap key (heapInit key a) := by
  rw [isHeap_iff, size_heapInit]
  -- nothing at or after `a.size / 2` has a child in the array
  exact initLoop_ordered key a _ fun p c hp hc hpc => by unfold Child at hpc; omega

theorem heapPush_isHeap (a : Array α) (x : α) (h : IsHeap key a) :
    IsHeap key (heapPush key a x) := by
  rw [isHeap_iff] at h ⊢
  rw [size_heapPush, ← Array.size_push x]
  -- the new last slot has no child, and every pair not touching it was in order before
  refine up_ordered key _ _ _ ⟨fun p c hc hpc hca => ?_, fun p c hc _ hac => ?_⟩ <;> rw [Array.size_push] at hc
  · have hc' : c < a.size := Nat.lt_of_le_of_ne (Nat.le_of_lt_succ hc) hca
    rw [keyAt_push key a x (Nat.lt_trans hpc.lt hc'), keyAt_push key a x hc']
    exact h p c (Nat.zero_le _) hc' hpc
  · exact absurd hc (Nat.not_lt.mpr (Nat.succ_le_of_lt hac.lt))

theorem heapPop_isHeap (a : Array α) (h0 : 0 < a.size) (h : IsHeap key a) :
    IsHeap key (heapPop key a h0) := by
  rw [isHeap_iff] at h ⊢
  rw [size_heapPop]
  have hsz : (a.swap 0 (a.size - 1) h0 (Nat.sub_lt h0 Nat.one_pos)).size = a.size := Array.size_swap
  refine Ordered.congr (down_ordered key _ 0 (a.size - 1) 0 (hsz.symm ▸ Nat.sub_le ..) (.of_ordered fun p c hp hc hpc => ?_))
    fun k hk => keyAt_pop key _ (by rwa [size_down, hsz])
  -- below the root and before the last slot the swap has changed nothing
  have hpc' := hpc.lt
  rw [keyAt_swap, swapF_of_ne _ (Nat.ne_of_gt hp) (Nat.ne_of_lt (Nat.lt_trans hpc' hc)),
    swapF_of_ne _ (Nat.ne_of_gt (Nat.lt_trans hp hpc')) (Nat.ne_of_lt hc)]
  exact h p c (Nat.zero_le _) (Nat.lt_of_lt_of_le hc (Nat.sub_le ..)) hpc

theorem root_min (a : Array α) (h : IsHeap key a) (c : Nat) (hc : c < a.size) :
    key (a[0]'(Nat.zero_lt_of_lt hc)) ≤ key a[c] := by
  induction c using Nat.strongRecOn with
  | _ c ih =>
    by_cases hc0 : c = 0
    · subst hc0; exact Int.le_refl _
    · -- the root is at most the parent of `c`, which is at most `c`
      have hpos := Nat.pos_of_ne_zero hc0
      have hlt := (child_parent hpos).lt
      exact Int.le_trans (ih _ hlt (Nat.lt_trans hlt hc)) (h (Nat.le_refl _) c hc hpos (Nat.zero_le _))

/-! ### permutation lemmas -/

theorem down_perm (a : Array α) (i n : Nat) (hn : n ≤ a.size) :
    (down key a i n hn).toList.Perm a.toList := by
  fun_induction down key a i n hn
  next a i hn h1 hj hlt ih =>
    exact ih.trans (Array.perm_iff_toList_perm.mp (Array.swap_perm _ _))
  next => exact List.Perm.refl _
  next => exact List.Perm.refl _

theorem down_getElem_ge (a : Array α) (i n : Nat) (hn : n ≤ a.size)
    (k : Nat) (hk : k < a.size) (hkn : n ≤ k) (hk' : k < (down key a i n hn).size) :
    (down key a i n hn)[k] = a[k] := by
  fun_induction down key a i n hn
  next a i hn h1 hj hlt ih =>
    have hjk := Nat.lt_of_lt_of_le hj hkn
    rw [ih (by rwa [Array.size_swap]),
      Array.getElem_swap_of_ne (Nat.ne_of_gt (Nat.lt_trans (minChild_child key a i n hn h1).lt hjk)) (Nat.ne_of_gt hjk)]
  next => rfl
  next => rfl

theorem up_perm (a : Array α) (j : Nat) (hj : j < a.size) :
    (up key a j hj).toList.Perm a.toList := by
  fun_induction up key a j hj
  next a j hj h0 hlt ih =>
    exact ih.trans (Array.perm_iff_toList_perm.mp (Array.swap_perm _ _))
  next => exact List.Perm.refl _
  next => exact List.Perm.refl _

theorem initLoop_perm (a : Array α) (k : Nat) :
    (initLoop key a k).toList.Perm a.toList := by
  induction k generalizing a with
  | zero => exact List.Perm.refl _
  | succ k ih => exact (ih _).trans (down_perm key a k a.size _)

theorem heapInit_perm (a : Array α) : (heapInit key a).toList.Perm a.toList :=
  initLoop_perm key a _

theorem heapPush_perm (a : Array α) (x : α) :
    (heapPush key a x).toList.Perm (x :: a.toList) := by
  unfold heapPush
  refine (up_perm key _ _ _).trans ?_
  simp only [Array.toList_push]
  exact List.perm_append_comm

theorem perm_cons_pop (a : Array α) (k : Nat) (hk : k + 1 = a.size) :
    a.toList.Perm (a[k]'(hk ▸ Nat.lt_succ_self k) :: a.pop.toList) := by
  obtain ⟨ys, x, rfl⟩ := Array.exists_push_of_size_eq_add_one hk.symm
  obtain rfl : k = ys.size := Nat.succ.inj (hk.trans (Array.size_push x))
  rw [Array.getElem_push_eq, Array.pop_push, Array.toList_push]
  exact List.perm_append_comm

/-- `heap.Pop` removes the root: `down` leaves the last slot, where the swap has put it, alone -/
theorem heapPop_perm (a : Array α) (h0 : 0 < a.size) : a.toList.Perm (a[0] :: (heapPop key a h0).toList) := by
  unfold heapPop
  have hlast : a.size - 1 < a.size := Nat.sub_lt h0 Nat.one_pos
  have hsz : (a.swap 0 (a.size - 1) h0 hlast).size = a.size := Array.size_swap
  have hn : a.size - 1 ≤ (a.swap 0 (a.size - 1) h0 hlast).size := hsz.symm ▸ Nat.sub_le ..
  have hd := (size_down key _ 0 (a.size - 1) hn).trans hsz
  have hroot := down_getElem_ge key _ 0 (a.size - 1) hn (a.size - 1) (hsz.symm ▸ hlast) (Nat.le_refl _) (hd.symm ▸ hlast)
  rw [Array.getElem_swap_right] at hroot
  rw [← hroot]
  exact ((Array.perm_iff_toList_perm.mp (Array.swap_perm ..)).symm.trans (down_perm ..).symm).trans
    (perm_cons_pop _ _ (hd.symm ▸ Nat.sub_add_cancel h0))

theorem heapPushPop_perm (a : Array α) (h0 : 0 < a.size) (x : α) :
    (a[0] :: (heapPush key (heapPop key a h0) x).toList).Perm (x :: a.toList) :=
  ((heapPush_perm key _ x).cons a[0]).trans ((List.Perm.swap ..).trans ((heapPop_perm key a h0).symm.cons x))

end GoHeap
