import NrDaemon.Model.Limits
/-!
  The limit negotiation: what `getEventConfig` returns, and where `negotiate` puts it.
-/
open Gen.Limits

theorem getEventConfig_some {raw : Option Int} {cr dl dr : Nat} {c : EvCfg} (h : getEventConfig raw cr dl dr = some c) :
    0 ≤ c.limit ∧ c.limit ≤ dl ∧ (c.period = dr ∨ c.period = cr) := by
  unfold getEventConfig at h
  split at h
  · cases h; exact ⟨Int.natCast_nonneg dl, Int.le_refl _, .inl rfl⟩
  · split at h
    · cases h
    · next hneg =>
      cases h
      split
      · exact ⟨Int.natCast_nonneg dl, Int.le_refl _, .inr rfl⟩
      · next hgt => exact ⟨Int.not_lt.mp hneg, Int.not_lt.mp hgt, .inr rfl⟩

/-- Each category's negotiated config is the Go zero value (its config object was absent from the reply) or what
`getEventConfig` made of one member, given the category's maximum and the report period of the member's object: what
holds of both holds of all five. -/
theorem negotiate_cfgs {P : Nat → EvCfg → Prop} {r : RawReply} {n : Negotiated} (h : negotiate r = some n)
    (hzero : ∀ dl, P dl { limit := 0, period := 0 })
    (hget : ∀ raw ms dl c, getEventConfig raw (periodOfMs ms) dl DefaultReportPeriod = some c → P dl c) :
    P MaxErrorEvents n.cfgs.err ∧ P MaxTxnEvents n.cfgs.txn ∧ P MaxCustomMaxEvents n.cfgs.custom ∧
      P MaxSpanMaxEvents n.cfgs.span ∧ P MaxLogMaxEvents n.cfgs.log := by
  unfold negotiate at h
  dsimp only at h
  split at h
  · next ehc span hehc hspan =>
    cases h
    -- the span config comes from the span object and overwrites the event object's
    have hs : P MaxSpanMaxEvents span := by
      split at hspan
      · exact hget _ _ _ _ hspan
      · cases hspan; exact hzero _
    split at hehc
    · split at hehc
      · next he ha hc _ hl =>   -- error, analytic, custom, (span: overridden above), log
        cases hehc
        exact ⟨hget _ _ _ _ he, hget _ _ _ _ ha, hget _ _ _ _ hc, hs, hget _ _ _ _ hl⟩
      · cases hehc
    · cases hehc; exact ⟨hzero _, hzero _, hzero _, hs, hzero _⟩
  · cases h
