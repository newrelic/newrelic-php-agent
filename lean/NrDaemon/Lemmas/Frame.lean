import NrDaemon.Model.Frame
/-!
  The chunk-level reader against the byte stream: `readFull` over any fragmentation returns what `take` / `drop` return on
  the flattened stream; `parse1` says what `ReadMessage` does as a function of the stream alone, `readMessage_spec` and
  `readAll_spec` that the chunk-level reader computes it, so fragmentation is irrelevant (C09).
-/
open Gen.Listener

theorem readFull_ok (n : Nat) (cs : Chunks) (acc : Bytes) (h : n ≤ cs.flatten.length) :
    ∃ rest, readFull n cs acc = .ok (acc ++ cs.flatten.take n) rest ∧ rest.flatten = cs.flatten.drop n := by
  induction n, cs, acc using readFull.induct with
  | case1 cs acc => exact ⟨cs, by simp [readFull], by simp⟩   -- nothing more is asked for
  | case2 n acc _ | case3 n acc _ => simp at h                -- the transport is exhausted (`acc` empty or not)
  | case4 n c cs acc hle ih =>                                -- the next chunk is consumed whole
    have hlen : n + 1 - c.length ≤ cs.flatten.length := by
      simp only [List.flatten_cons, List.length_append] at h; omega
    obtain ⟨rest, h1, h2⟩ := ih hlen
    refine ⟨rest, ?_, ?_⟩
    · rw [readFull, if_pos hle, h1, List.flatten_cons, List.take_append, List.take_of_length_le hle, List.append_assoc]
    · rw [h2, List.flatten_cons, List.drop_append, List.drop_eq_nil_of_le hle, List.nil_append]
  | case5 n c cs acc hgt =>                                   -- the next chunk holds more than is asked for
    have e : n + 1 - c.length = 0 := by omega
    refine ⟨c.drop (n + 1) :: cs, ?_, ?_⟩
    · rw [readFull]; simp only [hgt, if_false]
      simp [List.take_append, e]
    · simp [List.drop_append, e]

theorem readFull_short (n : Nat) (cs : Chunks) (acc : Bytes) (h : cs.flatten.length < n) :
    readFull n cs acc = if (acc ++ cs.flatten).isEmpty then .eof else .short (acc ++ cs.flatten) := by
  induction n, cs, acc using readFull.induct with
  | case1 cs acc => simp at h
  | case2 n acc he | case3 n acc he => simp [readFull, he]
  | case4 n c cs acc hle ih =>
    have hlen : cs.flatten.length < n + 1 - c.length := by
      simp only [List.flatten_cons, List.length_append] at h; omega
    rw [readFull]; simp only [hle, if_true]
    rw [ih hlen]; simp [List.append_assoc]
  | case5 n c cs acc hgt =>
    simp only [List.flatten_cons, List.length_append] at h; omega

/-! ### the stream-level specification of `ReadMessage` -/

inductive ParseOut where
  | msg (ty : Nat) (body : Bytes) (rest : Bytes)
  | eof | errHeader | errLegacy | errTooLarge (announced : Nat) | errBody
deriving Repr, DecidableEq

/-- what `ReadMessage` does, as a function of the byte stream alone -/
def parse1 (s : Bytes) : ParseOut :=
  if s.length = 0 then .eof
  else if s.length < msgHeaderSize then .errHeader
  else
    let hdr := s.take msgHeaderSize
    if isLegacyAgent hdr then .errLegacy
    else
      let size := rd32 hdr
      if size > maxMessageSize then .errTooLarge size
      else if (s.drop msgHeaderSize).length < size then .errBody
      else .msg (rd32 (hdr.drop 4)) ((s.drop msgHeaderSize).take size) ((s.drop msgHeaderSize).drop size)

def ReadOut.abs : ReadOut → ParseOut
  | .msg ty b rest => .msg ty b rest.flatten
  | .eof => .eof
  | .errHeader => .errHeader
  | .errLegacy => .errLegacy
  | .errTooLarge a => .errTooLarge a
  | .errBody => .errBody

theorem parse1_short (s : Bytes) (h : s.length < msgHeaderSize) : parse1 s = if s.isEmpty then .eof else .errHeader := by
  cases s <;> simp_all [parse1]

theorem parse1_header (hdr tail : Bytes) (hl : hdr.length = msgHeaderSize) :
    parse1 (hdr ++ tail) =
      if isLegacyAgent hdr then .errLegacy
      else if rd32 hdr > maxMessageSize then .errTooLarge (rd32 hdr)
      else if tail.length < rd32 hdr then .errBody
      else .msg (rd32 (hdr.drop 4)) (tail.take (rd32 hdr)) (tail.drop (rd32 hdr)) := by
  have h8 : msgHeaderSize = 8 := rfl
  have h0 : ¬ (hdr ++ tail).length = 0 := by rw [List.length_append]; omega
  have h1 : ¬ (hdr ++ tail).length < msgHeaderSize := by rw [List.length_append]; omega
  simp only [parse1, h0, h1, if_false, List.take_left' hl, List.drop_left' hl]

theorem readMessage_spec (cs : Chunks) : (readMessage cs).abs = parse1 cs.flatten := by
  unfold readMessage
  by_cases h8 : msgHeaderSize ≤ cs.flatten.length
  · obtain ⟨rest, h1, h2⟩ := readFull_ok msgHeaderSize cs [] h8
    rw [← List.take_append_drop msgHeaderSize cs.flatten, ← h2, parse1_header _ _ (List.length_take_of_le h8), h1]
    generalize cs.flatten.take msgHeaderSize = hdr
    simp only [List.nil_append]
    -- the same tests on both sides, one at a time (`split` on the nest is several times dearer)
    by_cases hleg : isLegacyAgent hdr = true
    · rw [if_pos hleg, if_pos hleg]; rfl
    by_cases hbig : rd32 hdr > maxMessageSize
    · rw [if_neg hleg, if_neg hleg, if_pos hbig, if_pos hbig]; rfl
    rw [if_neg hleg, if_neg hleg, if_neg hbig, if_neg hbig]
    by_cases hb : rd32 hdr ≤ rest.flatten.length
    · obtain ⟨rest', h3, h4⟩ := readFull_ok _ rest [] hb
      simp only [h3, if_neg (Nat.not_lt.mpr hb), ReadOut.abs, h4, List.nil_append]
    · rw [readFull_short _ rest [] (Nat.lt_of_not_le hb), if_pos (Nat.lt_of_not_le hb)]
      cases ([] ++ rest.flatten : Bytes).isEmpty <;> rfl
  · rw [readFull_short _ cs [] (Nat.lt_of_not_le h8), parse1_short _ (Nat.lt_of_not_le h8), List.nil_append]
    cases cs.flatten.isEmpty <;> rfl

/-- all messages of a flat stream (fuel = an upper bound on the number of messages) -/
def parseAll : Nat → Bytes → List (Nat × Bytes) × End
  | 0, _ => ([], .eof)
  | fuel + 1, s =>
    match parse1 s with
    | .msg ty body rest =>
      let (ms, e) := parseAll fuel rest
      ((ty, body) :: ms, e)
    | .eof => ([], .eof)
    | .errHeader => ([], .errHeader)
    | .errLegacy => ([], .errLegacy)
    | .errTooLarge _ => ([], .errTooLarge)
    | .errBody => ([], .errBody)

theorem readAll_spec (fuel : Nat) (cs : Chunks) : readAll fuel cs = parseAll fuel cs.flatten := by
  induction fuel generalizing cs with
  | zero => rfl
  | succ fuel ih =>
    unfold readAll parseAll
    rw [← readMessage_spec]
    cases readMessage cs <;> simp only [ReadOut.abs, ih]
