import NrDaemon.Lemmas.TopK
/-! The event reservoir (`analyticsEvents`), the error heap and the trace heap take `Offer` steps. -/
open GoHeap

theorem resAddArr_offer (cap : Nat) (a : Array Ev) (e : Ev) : Offer cap a e (resAddArr cap a e) := by
  have hpush : (a.push e).toList.Perm (e :: a.toList) := by rw [Array.toList_push]; exact List.perm_append_comm
  fun_cases resAddArr cap a e
  next hlt _ _ => exact .room hlt ((heapInit_perm evKey _).trans hpush)
  next hlt _ _ => exact .room hlt hpush
  next hge h0 hlow => exact .refuse (Nat.not_lt.mp hge) fun _ => Int.le_of_lt hlow
  next hge h0 hnlow => exact .replace h0 (Nat.not_lt.mp hge) (Int.not_lt.mp hnlow)
  next hge h0 => exact .refuse (Nat.not_lt.mp hge) fun h => absurd h h0

theorem resAddArr_inv (cap : Nat) (a : Array Ev) (e : Ev) (h : ResInv cap a) : ResInv cap (resAddArr cap a e) := by
  refine ⟨(resAddArr_offer cap a e).size_le h.1, fun hb => ?_⟩
  by_cases hlt : a.size < cap
  · -- filled by this offer: `heap.Init` runs
    rw [resAddArr, if_pos hlt] at hb ⊢
    by_cases hc : (a.push e).size = cap
    · rw [if_pos hc]; exact heapInit_isHeap _ _
    · rw [if_neg hc] at hb; exact absurd hb hc
  · exact (resAddArr_offer cap a e).isHeap (Nat.not_lt.mp hlt) (h.2 (Nat.le_antisymm h.1 (Nat.not_lt.mp hlt)))

theorem resFold_inv_top (cap : Nat) (es : List Ev) (a : Array Ev) (offered : List Ev)
    (hi : ResInv cap a) (h : TopInv cap a offered) :
    ResInv cap (es.foldl (resAddArr cap) a) ∧ TopInv cap (es.foldl (resAddArr cap) a) (es.reverse ++ offered) := by
  induction es generalizing a offered with
  | nil => exact ⟨hi, by simpa using h⟩
  | cons e es ih =>
    simpa using ih (resAddArr cap a e) (e :: offered) (resAddArr_inv cap a e hi) ((resAddArr_offer cap a e).top hi h)

theorem errAdd_offer (cap : Nat) (hK : 0 < cap) (a : Array Ev) (e : Ev) (hsz : a.size ≤ cap) (hh : IsHeap evKey a) :
    ∃ b, errAdd cap a e = some b ∧ IsHeap evKey b ∧ Offer cap a e b := by
  fun_cases errAdd cap a e
  next hfull h0 hle => exact ⟨a, rfl, hh, .refuse (Nat.le_of_eq hfull.symm) fun _ => hle⟩
  next hfull h0 hgt =>
    exact ⟨_, rfl, heapPush_isHeap _ _ _ (heapPop_isHeap _ _ h0 hh),
      .replace h0 (Nat.le_of_eq hfull.symm) (Int.le_of_lt (Int.not_le.mp hgt))⟩
  next hfull h0 => exact absurd (hfull ▸ hK) h0   -- full and empty: capacity 0
  next hroom => exact ⟨_, rfl, heapPush_isHeap _ _ _ hh, .room (Nat.lt_of_le_of_ne hsz hroom) (heapPush_perm evKey a e)⟩

theorem traceAdd_offer (cap : Nat) (hK : 0 < cap) (a : Array Ev) (e : Ev) (hh : IsHeap evKey a) :
    ∃ b, traceAdd cap a e = some b ∧ IsHeap evKey b ∧ Offer cap a e b := by
  fun_cases traceAdd cap a e
  next hroom => exact ⟨_, rfl, heapPush_isHeap _ _ _ hh, .room hroom (heapPush_perm evKey a e)⟩
  next hfull h0 hlow => exact ⟨a, rfl, hh, .refuse (Nat.not_lt.mp hfull) fun _ => Int.le_of_lt hlow⟩
  next hfull h0 hge =>
    exact ⟨_, rfl, heapPush_isHeap _ _ _ (heapPop_isHeap _ _ h0 hh), .replace h0 (Nat.not_lt.mp hfull) (Int.not_lt.mp hge)⟩
  next hfull h0 => exact absurd (Nat.lt_of_le_of_lt (Nat.not_lt.mp h0) hK) hfull   -- full and empty: capacity 0

/-! ### runs of offers -/

theorem resFold_room (cap : Nat) (es : List Ev) (h : es.length ≤ cap) : (es.foldl (resAddArr cap) #[]).toList.Perm es := by
  obtain ⟨hi, ht⟩ := resFold_inv_top cap es #[] [] (resInv_empty cap) (topInv_empty cap)
  obtain ⟨dropped, hp, -, hs⟩ := ht.topk hi.1
  have hl := hp.length_eq
  simp only [List.append_nil, List.length_append, Array.length_toList, List.length_reverse] at hp hl hs
  obtain rfl : dropped = [] := List.eq_nil_of_length_eq_zero (by omega)
  simpa using hp.trans (List.reverse_perm _)

theorem Res.foldl_add (r : Res) (es : List Ev) :
    es.foldl Res.add r = { r with seen := r.seen + es.length, evs := es.foldl (resAddArr r.cap) r.evs } := by
  induction es generalizing r with
  | nil => rfl
  | cons e es ih => simp [ih, Res.add, Nat.add_assoc, Nat.add_comm 1]
