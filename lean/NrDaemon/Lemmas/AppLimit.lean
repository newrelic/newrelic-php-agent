import NrDaemon.Lemmas.Lifecycle
/-!
  The processor never tracks more than `AppLimit` applications (C05), over all histories of the processor loop.
  "Tracks" is stated on the observable projection: any list of pairwise distinct handles the processor knows.
-/
open Gen.Limits

/-- `l` lists pairwise distinct handles the processor knows -/
def Tracked (s : PState) (l : List String) : Prop := l.Nodup ∧ ∀ h ∈ l, (appCfg s h).isSome

theorem tracked_le_length (s : PState) (l : List String) (h : Tracked s l) : l.length ≤ s.apps.length := by
  have hsub : l ⊆ s.apps.map (·.1) := fun k hk => by
    have := h.2 k hk
    unfold appCfg getApp at this
    cases hf : s.apps.find? (·.1 == k) with
    | none => simp [hf] at this
    | some p => exact List.mem_map.mpr ⟨p, List.mem_of_find?_eq_some hf, by simpa using List.find?_some hf⟩
  simpa using h.1.length_le_of_subset hsub

/-- however they are listed, the known applications are at most `AppLimit` -/
def AppsBounded (s : PState) : Prop := ∀ l, Tracked s l → l.length ≤ AppLimit

theorem Moves.appsBounded {s s' : PState} (m : Moves s s') (hb : AppsBounded s) : AppsBounded s' := by
  intro l ⟨hnd, hknown⟩
  rcases m.cfg with hk | ⟨k, c, _, hroom, ha⟩
  · -- nothing new: l was tracked before
    refine hb l ⟨hnd, fun h hh => ?_⟩
    have := hknown h hh
    rcases hk h with e | e <;> rw [e] at this
    · exact this
    · cases this
  · -- only `k` is new, and it was admitted because fewer than `AppLimit` were tracked
    have htr : Tracked s (l.erase k) := ⟨hnd.erase _, fun h hh => by
      have hne : h ≠ k := fun e => ((List.Nodup.mem_erase_iff hnd).mp (e ▸ hh)).1 rfl
      have := hknown h (List.mem_of_mem_erase hh)
      rwa [ha, if_neg hne] at this⟩
    have h1 : (l.erase k).length < AppLimit := Nat.lt_of_le_of_lt (tracked_le_length s _ htr) hroom
    exact Nat.le_trans (Nat.le_add_of_sub_le List.le_length_erase) h1
