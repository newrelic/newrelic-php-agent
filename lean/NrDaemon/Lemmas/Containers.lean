import NrDaemon.Model.Containers
import NrDaemon.Lemmas.GLedger
import NrDaemon.Lemmas.Reservoir
import NrDaemon.Lemmas.Assoc
/-! Every container of a harvest is a lawful instance of the generic ledger interface. -/
open GoHeap

/-- a fold of conserving steps conserves: `resAddArr` over a payload's events, `mergeG` over a table's entries -/
theorem foldl_conserve {σ β α : Type} (contents : σ → List α) (units : β → List α) (f : σ → β → σ)
    (h : ∀ s b, ∃ d, (contents (f s b) ++ d).Perm (contents s ++ units b)) (bs : List β) (s : σ) :
    ∃ d, (contents (bs.foldl f s) ++ d).Perm (contents s ++ bs.flatMap units) := by
  induction bs generalizing s with
  | nil => exact ⟨[], by simp⟩
  | cons b bs ih =>
    obtain ⟨d1, h1⟩ := h s b
    obtain ⟨d2, h2⟩ := ih (f s b)
    refine ⟨d2 ++ d1, ?_⟩
    -- by `h2`, then `d1` and the units of `bs` change places, then by `h1`
    rw [List.foldl_cons, List.flatMap_cons, ← List.append_assoc, ← List.append_assoc]
    exact (h2.append_right d1).trans ((List.perm_append_right_comm ..).trans (h1.append_right _))

/-! ### event reservoirs -/

theorem resAddArr_conserve (cap : Nat) (a : Array Ev) (e : Ev) :
    ∃ d, ((resAddArr cap a e).toList ++ d).Perm (a.toList ++ [e]) :=
  (resAddArr_offer cap a e).conserve.imp fun _ h => h.trans (List.perm_append_comm (l₁ := [e]))

@[elab_as_elim]
theorem Res.mergeFailed_cases {motive : Res → Prop} (limit : Nat) (r other : Res) (giveUp : other.failed + 1 > limit → motive r)
    (merge : other.failed + 1 ≤ limit → motive (({ r with failed := other.failed + 1 }).merge other)) :
    motive (r.mergeFailed limit other) :=
  iteInduction giveUp fun h => merge (Nat.le_of_not_gt h)

theorem Res.mergeFailed_conserve (limit : Nat) (r other : Res) :
    ∃ d, ((r.mergeFailed limit other).evs.toList ++ d).Perm (r.evs.toList ++ other.evs.toList) := by
  -- given up: the whole payload is dropped
  refine Res.mergeFailed_cases limit r other (fun _ => ⟨other.evs.toList, .refl _⟩) fun _ => ?_
  have := foldl_conserve (·.toList) (fun e => [e]) _ (resAddArr_conserve r.cap) other.evs.toList r.evs
  rwa [List.flatMap_singleton'] at this

theorem evCont_lawful (cap limit : Nat) : (evCont cap limit).Lawful (fun _ => True) :=
  .of_conserve _ rfl (fun s x => resAddArr_conserve s.cap s.evs x) (Res.mergeFailed_conserve limit)

/-! ### errors, traces, package lists -/

/-- push, and push after pop, in the form `Cont.Lawful` asks for.  (`errAdd` / `traceAdd` are shown to conserve directly and
not through `Offer.conserve`: `Cont.Lawful` wants conservation from every array, and they take `Offer` steps only from
a heap within capacity, `errAdd_offer`.) -/
theorem push_conserve (a : Array Ev) (e : Ev) : ((heapPush evKey a e).toList ++ []).Perm (a.toList ++ [e]) := by
  rw [List.append_nil]; exact (heapPush_perm evKey a e).trans (List.perm_append_comm (l₁ := [e]))

theorem pushPop_conserve (a : Array Ev) (e : Ev) (h0 : 0 < a.size) :
    ((heapPush evKey (heapPop evKey a h0) e).toList ++ [a[0]]).Perm (a.toList ++ [e]) :=
  List.perm_append_comm.trans ((heapPushPop_perm evKey a h0 e).trans (List.perm_append_comm (l₁ := [e])))

theorem errAdd_conserve (cap : Nat) (a : Array Ev) (e : Ev) :
    ∃ d, (((errAdd cap a e).getD a).toList ++ d).Perm (a.toList ++ [e]) := by
  fun_cases errAdd cap a e
  next => exact ⟨[e], .refl _⟩                                -- full, too low: refused
  next h0 _ => exact ⟨[a[0]], pushPop_conserve a e h0⟩         -- full: the root makes way
  next => exact ⟨[e], .refl _⟩                                -- capacity 0 (the call panics; nothing is kept)
  next => exact ⟨[], push_conserve a e⟩

theorem traceAdd_conserve (cap : Nat) (a : Array Ev) (e : Ev) :
    ∃ d, (((traceAdd cap a e).getD a).toList ++ d).Perm (a.toList ++ [e]) := by
  fun_cases traceAdd cap a e      -- the same outcomes, the test for room first
  next => exact ⟨[], push_conserve a e⟩
  next => exact ⟨[e], .refl _⟩
  next h0 _ => exact ⟨[a[0]], pushPop_conserve a e h0⟩
  next => exact ⟨[e], .refl _⟩

theorem errCont_lawful (cap : Nat) : (errCont cap).Lawful (fun _ => True) :=
  .of_no_retry _ rfl (errAdd_conserve cap) fun _ _ => rfl

theorem traceCont_lawful (cap : Nat) : (traceCont cap).Lawful (fun _ => True) :=
  .of_no_retry _ rfl (traceAdd_conserve cap) fun _ _ => rfl

/-- the latest package list replaces the earlier one, which is dropped -/
theorem pkgCont_lawful : pkgCont.Lawful (fun _ => True) :=
  .of_no_retry _ rfl (fun s _ => ⟨s.toList, List.perm_append_comm⟩) fun _ _ => rfl

/-! ### slow SQLs -/

theorem slowMergeIntoG_proj (l : List SlowG) (o : Obs) :
    (slowMergeIntoG l o).map (fun l' => l'.map (·.1)) = slowMergeInto (l.map (·.1)) o.1 := by
  fun_induction slowMergeIntoG l o
  next => rfl
  next s rest o hid => rw [List.map_cons, slowMergeInto, if_pos hid]; rfl
  next s rest o hne ih => rw [List.map_cons, slowMergeInto, if_neg hne, ← ih, Option.map_map, Option.map_map]; rfl

/-- the ghost-carrying `Observe` is `slowObserve` on the statements (so everything the engine `slow` ties to the real
`SlowSQLs` holds of it too) -/
theorem slowObserveG_proj (cap : Nat) (l : List SlowG) (o : Obs) :
    (slowObserveG cap l o).map (·.1) = slowObserve cap (l.map (·.1)) o.1 := by
  unfold slowObserveG slowObserve
  rw [← slowMergeIntoG_proj]
  cases slowMergeIntoG l o with
  | some l' => rfl
  | none =>
    -- the same tests on both sides; `map` goes through `if`, `set` and `++`
    rw [List.length_map, apply_ite (List.map _)]
    cases slowFastest (l.map (·.1)) with
    | none => simp
    | some idx =>
      rw [apply_ite (List.map _), List.map_set, List.map_append]
      rfl

theorem slowMergeIntoG_conserve (l l' : List SlowG) (o : Obs) (h : slowMergeIntoG l o = some l') :
    (l'.flatMap (·.2)).Perm (l.flatMap (·.2) ++ [o]) := by
  fun_induction slowMergeIntoG l o generalizing l'
  next => cases h
  next s rest o hid =>
    cases h
    simp only [List.flatMap_cons, List.append_assoc]
    exact .append_left _ List.perm_append_comm
  next s rest o hne ih =>
    obtain ⟨r', hr, rfl⟩ := Option.map_eq_some_iff.mp h
    simp only [List.flatMap_cons, List.append_assoc]
    exact (ih r' hr).append_left _

theorem List.perm_cons_set {β : Type} {l : List β} {i : Nat} {y : β} (h : l[i]? = some y) (b : β) :
    (y :: l.set i b).Perm (b :: l) := by
  induction l generalizing i with
  | nil => cases h
  | cons z zs ih =>
    cases i with
    | zero => cases h; exact .swap ..
    | succ j => exact (List.Perm.swap ..).trans (((ih h).cons z).trans (.swap ..))

theorem slowObserveG_conserve (cap : Nat) (l : List SlowG) (o : Obs) :
    ∃ d, ((slowObserveG cap l o).flatMap (·.2) ++ d).Perm (l.flatMap (·.2) ++ [o]) := by
  fun_cases slowObserveG cap l o
  next l' hm => exact ⟨[], by simpa using slowMergeIntoG_conserve l l' o hm⟩
  next idx _ _ =>
    cases hy : l[idx]? with
    | none => exact ⟨[o], by rw [List.set_eq_of_length_le (by simpa using hy)]⟩
    | some y =>    -- the fastest statement goes, with everything it stood for
      have h := (List.perm_cons_set hy (o.1, [o])).flatMap_right (fun s : SlowG => s.2)
      simp only [List.flatMap_cons] at h
      exact ⟨y.2, List.perm_append_comm.trans (h.trans List.perm_append_comm)⟩
  next => exact ⟨[o], .refl _⟩
  next => exact ⟨[o], .refl _⟩
  next => exact ⟨[], by simp⟩

theorem slowCont_lawful (cap : Nat) : (slowCont cap).Lawful (fun _ => True) :=
  .of_no_retry _ rfl (slowObserveG_conserve cap) fun _ _ => rfl

/-! ### metric table -/

/-- no two entries for one key (what `MetricTable`'s Go map guarantees) -/
def MTG.Inv (t : MTG) : Prop := (t.ms.map (·.1)).Nodup

def aggG (e : MKey × Metric × List Contrib) (d : MData) (g : List Contrib) : MKey × Metric × List Contrib :=
  (e.1, { e.2.1 with d := e.2.1.d.agg d }, e.2.2 ++ g)

theorem updFirstG_append (pre post : List (MKey × Metric × List Contrib)) (e : MKey × Metric × List Contrib) (k : MKey)
    (d : MData) (g : List Contrib) (hpre : ∀ a ∈ pre, a.1 ≠ k) (he : e.1 = k) :
    updFirstG (pre ++ e :: post) k d g = pre ++ aggG e d g :: post := by
  induction pre with
  | nil => rw [List.nil_append, updFirstG, if_pos (beq_iff_eq.mpr he)]; rfl
  | cons a pre ih =>
    rw [List.cons_append, updFirstG, if_neg (mt beq_iff_eq.mp (hpre a List.mem_cons_self)),
      ih fun b hb => hpre b (List.mem_cons_of_mem _ hb)]
    rfl

/-- what `mergeG` does: with no entry for `k` it refuses at capacity or appends one, otherwise it rewrites the entry for `k` -/
inductive MTG.Merged (t : MTG) (k : MKey) (m : Metric) (g : List Contrib) : MTG → Prop
  | refuse : (∀ e ∈ t.ms, e.1 ≠ k) → Merged t k m g { t with dropped := t.dropped + 1 }
  | append : (∀ e ∈ t.ms, e.1 ≠ k) → Merged t k m g { t with ms := t.ms ++ [(k, m, g)], count := t.count + 1 }
  | update {pre post e} : t.ms = pre ++ e :: post → (∀ a ∈ pre, a.1 ≠ k) → e.1 = k →
      Merged t k m g { t with ms := pre ++ aggG e m.d g :: post }

theorem MTG.mergeG_merged (t : MTG) (k : MKey) (m : Metric) (g : List Contrib) : t.Merged k m g (t.mergeG k m g) := by
  fun_cases MTG.mergeG t k m g
  next hf _ => exact .refuse (find?_key_none hf)
  next hf _ => exact .append (find?_key_none hf)
  next e hf =>
    obtain ⟨pre, post, hms, hpre, he⟩ := find?_key_some hf
    rw [hms, updFirstG_append pre post e k m.d g hpre he]
    exact .update hms hpre he

section
variable {t t' : MTG} {k : MKey} {m : Metric} {g : List Contrib}

theorem MTG.Merged.inv (h : t.Merged k m g t') (hi : t.Inv) : t'.Inv := by
  unfold MTG.Inv at *
  cases h with
  | refuse => exact hi
  | append hnew => exact nodup_keys_append hi hnew
  | update hms => rw [hms] at hi; rwa [List.map_append, List.map_cons] at hi ⊢

theorem MTG.Merged.conserve (h : t.Merged k m g t') : ∃ d, (t'.ms.flatMap (·.2.2) ++ d).Perm (t.ms.flatMap (·.2.2) ++ g) := by
  cases h with
  | refuse => exact ⟨g, .refl _⟩
  | append => exact ⟨[], by simp⟩
  | update hms =>
    refine ⟨[], ?_⟩
    simp only [hms, aggG, List.flatMap_append, List.flatMap_cons, List.append_assoc, List.append_nil]
    exact .append_left _ (.append_left _ List.perm_append_comm)

theorem MTG.Merged.failed (h : t.Merged k m g t') : t'.failed = t.failed := by
  cases h <;> rfl

end

@[elab_as_elim]
theorem MTG.mergeFailed_cases {motive : MTG → Prop} (limit : Nat) (t p : MTG) (giveUp : p.failed + 1 > limit → motive t)
    (merge : p.failed + 1 ≤ limit →
      motive (p.ms.foldl (fun acc e => acc.mergeG e.1 e.2.1 e.2.2) { t with failed := p.failed + 1 })) :
    motive (t.mergeFailed limit p) :=
  iteInduction giveUp fun h => merge (Nat.le_of_not_gt h)

theorem MTG.mergeFailed_inv (limit : Nat) (t p : MTG) (h : t.Inv) : (t.mergeFailed limit p).Inv :=
  MTG.mergeFailed_cases limit t p (fun _ => h) fun _ => List.foldlRecOn _ _ h fun u hu _ _ => (u.mergeG_merged ..).inv hu

theorem MTG.mergeFailed_conserve (limit : Nat) (t p : MTG) :
    ∃ d, ((t.mergeFailed limit p).ms.flatMap (·.2.2) ++ d).Perm (t.ms.flatMap (·.2.2) ++ p.ms.flatMap (·.2.2)) :=
  MTG.mergeFailed_cases limit t p (fun _ => ⟨_, .refl _⟩) fun _ =>
    foldl_conserve (fun u : MTG => u.ms.flatMap (·.2.2)) (·.2.2) _ (fun u _ => (u.mergeG_merged ..).conserve) p.ms _

theorem mtCont_lawful (max limit : Nat) : (mtCont max limit).Lawful MTG.Inv where
  fresh_inv := List.nodup_nil
  offer_inv := fun s _ h => (s.mergeG_merged ..).inv h
  merge_inv := fun s p h _ => MTG.mergeFailed_inv limit s p h
  fresh_contents := rfl
  offer_conserve := fun s x _ => (s.mergeG_merged x.1 x.2.1 [x]).conserve
  merge_conserve := fun s p _ _ => MTG.mergeFailed_conserve limit s p

/-! the ghost-carrying table is the metric table (`Model/Metrics.lean`) plus ghosts -/

theorem MTG.proj_find (t : MTG) (k : MKey) : t.proj.find k = (t.ms.find? (·.1 == k)).map (·.2.1) := by
  rw [MTG.proj, MTable.find, List.find?_map, Option.map_map]; rfl

theorem MTG.mergeG_proj (t : MTG) (k : MKey) (m : Metric) (g : List Contrib) (h : t.Inv) :
    (t.mergeG k m g).proj = t.proj.mergeMetric k m := by
  rw [MTable.mergeMetric, MTG.proj_find]
  fun_cases MTG.mergeG t k m g
  next hf hfull => rw [hf]; exact (if_pos hfull).symm
  next hf hroom =>
    rw [hf]
    refine .trans ?_ (if_neg hroom).symm
    simp only [MTG.proj, List.map_append, List.map_cons, List.map_nil]
  next e hf =>
    -- the entry for `k` is the only one (`h`): both sides rewrite it and nothing else
    obtain ⟨pre, post, hms, hpre, he⟩ := find?_key_some hf
    have hpost : ∀ a ∈ post, a.1 ≠ k := fun a ha hak => by
      rw [MTG.Inv, hms, List.map_append, List.map_cons, List.nodup_append] at h
      exact (List.nodup_cons.mp h.2.1).1 (List.mem_map.mpr ⟨a, ha, hak.trans he.symm⟩)
    -- `updAssoc` is a `map`: it leaves the entries for other keys as they are
    have hkeep : ∀ l : List (MKey × Metric × List Contrib), (∀ a ∈ l, a.1 ≠ k) →
        l.map ((fun p => if p.1 == k then (p.1, { p.2 with d := p.2.d.agg m.d }) else p) ∘ fun e => (e.1, e.2.1)) =
          l.map fun e => (e.1, e.2.1) :=
      fun l hl => List.map_congr_left fun a ha => if_neg (mt beq_iff_eq.mp (hl a ha))
    rw [hf]
    dsimp only [Option.map_some, MTG.proj]
    rw [hms, updFirstG_append pre post e k m.d g hpre he, updAssoc, List.map_map, List.map_append, List.map_append,
      List.map_cons, List.map_cons, hkeep pre hpre, hkeep post hpost, Function.comp, if_pos (beq_iff_eq.mpr he)]
    rfl

theorem MTG.fold_proj (es : List (MKey × Metric × List Contrib)) (t : MTG) (h : t.Inv) :
    (es.foldl (fun acc e => acc.mergeG e.1 e.2.1 e.2.2) t).proj = t.proj.mergeOrd (es.map fun e => (e.1, e.2.1)) := by
  induction es generalizing t with
  | nil => rfl
  | cons e es ih =>
    simp only [List.foldl_cons, List.map_cons, MTable.mergeOrd]
    rw [ih _ ((t.mergeG_merged ..).inv h), MTG.mergeG_proj t _ _ _ h]
    rfl

theorem MTG.mergeFailed_proj (limit : Nat) (t from_ : MTG) (h : t.Inv) :
    (t.mergeFailed limit from_).proj = t.proj.mergeFailed limit from_.proj := by
  unfold MTable.mergeFailed
  -- the same test on both sides (`from_.proj.failed` is `from_.failed`)
  refine MTG.mergeFailed_cases limit t from_ (fun hgt => (if_pos hgt).symm) fun hle => ?_
  rw [MTG.fold_proj from_.ms { t with failed := from_.failed + 1 } h]
  exact (if_neg (Nat.not_lt.mpr hle)).symm
