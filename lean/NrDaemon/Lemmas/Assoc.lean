/-!
  Association lists `List (κ × β)` read by `find? (·.1 == k)`, as every table of the models is (applications and runs of
  the processor, the metric table and its ghost copy, the daemon's settings): where the found entry stands,
  and what is found after an entry is appended, after a map that keeps the keys, after the entries for a key are
  filtered out, after "update in place or append".
-/

/-- an entry whose key no entry has keeps the keys distinct (`key` is `(·.1)` for the tables above, the id of a slow SQL) -/
theorem nodup_keys_append {α γ : Type} {key : α → γ} {l : List α} {x : α} (h : (l.map key).Nodup)
    (hx : ∀ a ∈ l, key a ≠ key x) : ((l ++ [x]).map key).Nodup := by
  rw [List.map_append]
  refine (List.perm_append_singleton ..).nodup_iff.mpr (List.nodup_cons.mpr ⟨fun hk => ?_, h⟩)
  obtain ⟨a, ha, hak⟩ := List.mem_map.mp hk
  exact hx a ha hak

variable {κ β : Type} [BEq κ]

theorem find?_key_map (g : κ × β → κ × β) (hg : ∀ p, (g p).1 = p.1) (l : List (κ × β)) (k : κ) :
    (l.map g).find? (·.1 == k) = (l.find? (·.1 == k)).map g := by
  rw [List.find?_map]
  exact congrArg (fun q => (l.find? q).map g) (funext fun p => congrArg (· == k) (hg p))

variable [LawfulBEq κ]

theorem find?_key_none {l : List (κ × β)} {k : κ} (h : l.find? (·.1 == k) = none) : ∀ e ∈ l, e.1 ≠ k :=
  fun e he => by simpa using List.find?_eq_none.mp h e he

theorem find?_key_some {l : List (κ × β)} {k : κ} {e : κ × β} (h : l.find? (·.1 == k) = some e) :
    ∃ pre post, l = pre ++ e :: post ∧ (∀ a ∈ pre, a.1 ≠ k) ∧ e.1 = k := by
  obtain ⟨he, pre, post, hl, hpre⟩ := List.find?_eq_some_iff_append.mp h
  exact ⟨pre, post, hl, fun a ha => by simpa using hpre a ha, by simpa using he⟩

variable [DecidableEq κ]

theorem find?_key_append {l : List (κ × β)} {k : κ} (hnone : l.find? (·.1 == k) = none) (k' : κ) (v : β) :
    ((l ++ [(k, v)]).find? (·.1 == k')).map (·.2) = if k' = k then some v else (l.find? (·.1 == k')).map (·.2) := by
  rw [List.find?_append, List.find?_singleton]
  by_cases e : k' = k
  · rw [if_pos e, e, hnone, beq_self_eq_true]; rfl
  · rw [if_neg e, if_neg (by simpa using fun e' => e e'.symm), Option.or_none]

theorem find?_key_filter (l : List (κ × β)) (k k' : κ) :
    ((l.filter (·.1 != k)).find? (·.1 == k')).map (·.2) = if k' = k then none else (l.find? (·.1 == k')).map (·.2) := by
  rw [List.find?_filter]
  split
  · next e => rw [List.find?_eq_none.mpr (by simp [e])]; rfl
  · next e =>
    refine congrArg (fun q => (l.find? q).map (·.2)) (funext fun a => ?_)
    by_cases ha : a.1 = k' <;> simp [ha, e]

theorem find?_key_upsert (l : List (κ × β)) (k k' : κ) (v : β) :
    ((if l.any (·.1 == k) then l.map (fun p => if p.1 == k then (k, v) else p) else l ++ [(k, v)]).find? (·.1 == k')).map (·.2) =
      if k' = k then some v else (l.find? (·.1 == k')).map (·.2) := by
  split
  · next hany =>
    rw [find?_key_map _ (fun p => by split <;> simp_all)]
    cases hf : l.find? (·.1 == k') with
    | none =>
      -- `k` has an entry and `k'` has none
      obtain ⟨x, hx, hxe⟩ := List.any_eq_true.mp hany
      rw [if_neg fun e => find?_key_none hf x hx ((beq_iff_eq.mp hxe).trans e.symm)]; rfl
    | some x =>
      obtain ⟨-, -, -, -, hx⟩ := find?_key_some hf
      by_cases e : k' = k <;> simp [hx, e]
  · next hnone =>
    exact find?_key_append (List.find?_eq_none.mpr fun x hx hxe => hnone (List.any_eq_true.mpr ⟨x, hx, hxe⟩)) k' v
