import NrDaemon.Model.Reservoir
import NrDaemon.Lemmas.GoHeap
/-!
  Top-K lemmas shared by the reservoir, the error heap and the trace heap.

  The three containers differ only in how they arrange the array while there is room and in whether an equal
  priority displaces the root.  Each is shown once to take an `Offer` step (`resAddArr_offer`, `errAdd_offer`,
  `traceAdd_offer` in `Lemmas/Reservoir`); size bound, conservation and the top-K invariant are proved of the step.
-/
open GoHeap

/-- the invariant carried along an offer sequence: `kept ⊎ dropped = offered`, nothing dropped outranks
anything kept, and nothing is dropped while there is room. -/
def TopInv (cap : Nat) (kept : Array Ev) (offered : List Ev) : Prop :=
  ∃ dropped, (kept.toList ++ dropped).Perm offered ∧
    (∀ d ∈ dropped, ∀ k ∈ kept.toList, d.prio ≤ k.prio) ∧
    (kept.size < cap → dropped = [])

theorem topInv_empty (cap : Nat) : TopInv cap #[] [] := ⟨[], by simp, by simp, fun _ => rfl⟩

theorem TopInv.topk {cap : Nat} {a : Array Ev} {offered : List Ev} (h : TopInv cap a offered) (hle : a.size ≤ cap) :
    ∃ dropped, (a.toList ++ dropped).Perm offered ∧ (∀ d ∈ dropped, ∀ k ∈ a.toList, d.prio ≤ k.prio) ∧
      a.size = min offered.length cap := by
  obtain ⟨dropped, hp, hd, hroom⟩ := h
  refine ⟨dropped, hp, hd, ?_⟩
  have hl := hp.length_eq
  rw [List.length_append, Array.length_toList] at hl
  rw [← hl]
  by_cases hlt : a.size < cap
  · rw [hroom hlt]; exact (Nat.min_eq_left (Nat.le_of_lt hlt)).symm      -- room left: nothing was dropped
  · rw [Nat.le_antisymm hle (Nat.not_lt.mp hlt)]; exact (Nat.min_eq_right (Nat.le_add_right ..)).symm

/-- representation invariant: never above capacity; a heap once full (the reservoir's `heap.Init` is lazy) -/
def ResInv (cap : Nat) (a : Array Ev) : Prop := a.size ≤ cap ∧ (a.size = cap → IsHeap evKey a)

theorem resInv_empty (cap : Nat) : ResInv cap #[] := ⟨Nat.zero_le _, fun _ => isHeap_empty evKey⟩

/-- what a container of capacity `cap` holding `a` does with the offer `e`: keep it while there is room, in any
arrangement; once full, refuse it if the root is at least as high, or let it take the root's place if it is at
least as high as the root (at equal priority either may happen: the reservoir lets the newcomer in, the error heap
keeps the earlier one).  `refuse` asks for the comparison only if there is a root, so that it also covers capacity 0. -/
inductive Offer (cap : Nat) (a : Array Ev) (e : Ev) : Array Ev → Prop
  | room {b : Array Ev} : a.size < cap → b.toList.Perm (e :: a.toList) → Offer cap a e b
  | refuse : cap ≤ a.size → (∀ h0 : 0 < a.size, e.prio ≤ a[0].prio) → Offer cap a e a
  | replace (h0 : 0 < a.size) : cap ≤ a.size → a[0].prio ≤ e.prio →
      Offer cap a e (heapPush evKey (heapPop evKey a h0) e)

variable {cap : Nat} {a b : Array Ev} {e : Ev}

theorem Offer.size_le (h : Offer cap a e b) (ha : a.size ≤ cap) : b.size ≤ cap := by
  cases h with
  | room hlt hp => rw [← Array.length_toList, hp.length_eq, List.length_cons, Array.length_toList]; exact hlt
  | refuse => exact ha
  | replace h0 => rw [size_heapPush, size_heapPop, Nat.sub_add_cancel h0]; exact ha

theorem Offer.conserve (h : Offer cap a e b) : ∃ d, (b.toList ++ d).Perm (e :: a.toList) := by
  cases h with
  | room _ hp => exact ⟨[], by simpa using hp⟩
  | refuse => exact ⟨[e], List.perm_append_comm⟩
  | replace h0 => exact ⟨[a[0]], List.perm_append_comm.trans (heapPushPop_perm evKey a h0 e)⟩

theorem Offer.top {offered : List Ev} (h : Offer cap a e b) (hi : ResInv cap a) (ht : TopInv cap a offered) :
    TopInv cap b (e :: offered) := by
  obtain ⟨dropped, hp, hdk, hroom⟩ := ht
  -- once full the array is a heap: its root is the least
  have hmin : ∀ h0 : 0 < a.size, cap ≤ a.size → ∀ k ∈ a.toList, a[0].prio ≤ k.prio := by
    intro h0 hfull k hk
    obtain ⟨idx, hidx, rfl⟩ := List.getElem_of_mem hk
    exact root_min evKey a (hi.2 (Nat.le_antisymm hi.1 hfull)) idx (by simpa using hidx)
  cases h with
  | room hlt hb =>
    cases hroom hlt
    rw [List.append_nil] at hp
    exact ⟨[], by rw [List.append_nil]; exact hb.trans (hp.cons e), fun _ hd => absurd hd List.not_mem_nil, fun _ => rfl⟩
  | refuse hfull hle =>
    refine ⟨e :: dropped, List.perm_middle.trans (hp.cons e), fun d hd k hk => ?_, fun h => absurd h (Nat.not_lt.mpr hfull)⟩
    rcases List.mem_cons.mp hd with rfl | hd
    · have h0 : 0 < a.size := Array.length_toList ▸ List.length_pos_of_mem hk
      exact Int.le_trans (hle h0) (hmin h0 hfull k hk)
    · exact hdk d hd k hk
  | replace h0 hfull hge =>
    have hpp := heapPushPop_perm evKey a h0 e
    refine ⟨a[0] :: dropped, ?_, fun d hd k hk => ?_, fun h => ?_⟩
    · exact List.perm_middle.trans (((hpp.append_right dropped).trans (by simp)).trans (hp.cons e))
    · -- a kept element is the newcomer or was kept before; a dropped one is the old root or was dropped before
      have hk' : k = e ∨ k ∈ a.toList := List.mem_cons.mp (hpp.subset (List.mem_cons_of_mem _ hk))
      have hd' : d.prio ≤ a[0].prio := by
        rcases List.mem_cons.mp hd with rfl | hd
        · exact Int.le_refl _
        · exact hdk d hd _ (Array.getElem_mem_toList h0)
      rcases hk' with rfl | hk'
      · exact Int.le_trans hd' hge
      · exact Int.le_trans hd' (hmin h0 hfull k hk')
    · rw [size_heapPush, size_heapPop, Nat.sub_add_cancel h0] at h; exact absurd h (Nat.not_lt.mpr hfull)

theorem Offer.isHeap (h : Offer cap a e b) (hfull : cap ≤ a.size) (hh : IsHeap evKey a) : IsHeap evKey b := by
  cases h with
  | room hlt => omega
  | refuse => exact hh
  | replace h0 => exact heapPush_isHeap _ _ _ (heapPop_isHeap _ _ h0 hh)

/-- Offers (newest first) run through a container `step` that cannot fail on a heap within capacity, keeps it a heap
and takes an `Offer` step: what is retained is a top-`K` selection of what was offered. -/
theorem offerRun_topk (K : Nat) (step : Array Ev → Ev → Option (Array Ev)) (run : List Ev → Option (Array Ev))
    (hnil : run [] = some #[]) (hcons : ∀ e es a, run es = some a → run (e :: es) = step a e)
    (hstep : ∀ a e, a.size ≤ K → IsHeap evKey a → ∃ b, step a e = some b ∧ IsHeap evKey b ∧ Offer K a e b)
    (es : List Ev) :
    ∃ a, run es = some a ∧ a.size = min es.length K ∧ IsHeap evKey a ∧
      ∃ dropped, (a.toList ++ dropped).Perm es ∧ ∀ d ∈ dropped, ∀ k ∈ a.toList, d.prio ≤ k.prio := by
  have aux : ∃ a, run es = some a ∧ a.size ≤ K ∧ IsHeap evKey a ∧ TopInv K a es := by
    induction es with
    | nil => exact ⟨#[], hnil, Nat.zero_le _, isHeap_empty evKey, topInv_empty K⟩
    | cons e es ih =>
      obtain ⟨a, hr, hs, hh, ht⟩ := ih
      obtain ⟨b, hb, hhb, ho⟩ := hstep a e hs hh
      exact ⟨b, (hcons e es a hr).trans hb, ho.size_le hs, hhb, ho.top ⟨hs, fun _ => hh⟩ ht⟩
  obtain ⟨a, hr, hs, hh, ht⟩ := aux
  obtain ⟨dropped, hp, hd, hsize⟩ := ht.topk hs
  exact ⟨a, hr, hsize, hh, dropped, hp, hd⟩
