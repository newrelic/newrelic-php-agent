import NrDaemon.Model.Metrics
import NrDaemon.Lemmas.Assoc
/-! Algebra of `metricData.aggregate` and lookup lemmas for the metric table. -/

theorem MData.agg_eq (d s : MData) :
    d.agg s = ⟨d.c + s.c, d.t + s.t, d.e + s.e, min d.mn s.mn, max d.mx s.mx, d.sq + s.sq⟩ := by
  unfold MData.agg
  congr 1 <;> omega

theorem MData.agg_comm (a b : MData) : a.agg b = b.agg a := by
  simp only [MData.agg_eq, Int.add_comm, Int.min_comm, Int.max_comm]

theorem MData.agg_assoc (a b c : MData) : (a.agg b).agg c = a.agg (b.agg c) := by
  simp only [MData.agg_eq, Int.add_assoc, Int.min_assoc, Int.max_assoc]

/-- aggregate into an optional accumulator: the first contribution is stored as it is -/
def aggO (acc : Option MData) (d : MData) : Option MData :=
  match acc with
  | none => some d
  | some a => some (a.agg d)

/-- the field-wise combination of a list of contributions -/
def combineFrom (init : Option MData) (ds : List MData) : Option MData := ds.foldl aggO init
def combine (ds : List MData) : Option MData := combineFrom none ds

theorem aggO_rcomm (z : Option MData) (x y : MData) : aggO (aggO z x) y = aggO (aggO z y) x := by
  cases z with
  | none => simp [aggO, MData.agg_comm]
  | some a =>
    simp only [aggO]
    rw [MData.agg_assoc, MData.agg_assoc, MData.agg_comm x y]

theorem combineFrom_perm (init : Option MData) (l1 l2 : List MData) (p : l1.Perm l2) :
    combineFrom init l1 = combineFrom init l2 :=
  List.Perm.foldl_eq' p (fun x _ y _ z => aggO_rcomm z x y) init

theorem combineFrom_append (init : Option MData) (l1 l2 : List MData) :
    combineFrom init (l1 ++ l2) = combineFrom (combineFrom init l1) l2 := by
  simp [combineFrom, List.foldl_append]

theorem combineFrom_some_eq (a : MData) (ds : List MData) :
    combineFrom (some a) ds = some (match combine ds with | none => a | some r => a.agg r) := by
  induction ds generalizing a with
  | nil => simp [combineFrom, combine]
  | cons d ds ih =>
    have e1 : combineFrom (some a) (d :: ds) = combineFrom (some (a.agg d)) ds := by simp [combineFrom, aggO]
    have e2 : combine (d :: ds) = combineFrom (some d) ds := by simp [combine, combineFrom, aggO]
    rw [e1, e2, ih (a.agg d), ih d]
    cases h : combine ds with
    | none => simp
    | some r => simp [MData.agg_assoc]

theorem combine_isSome_of_mem {d : MData} {ds : List MData} (h : d ∈ ds) : (combine ds).isSome := by
  cases ds with
  | nil => cases h
  | cons a as =>
    show (combineFrom (some a) as).isSome
    rw [combineFrom_some_eq]
    rfl

/-! ### lookup after insertion -/

/-- what `mergeAdmitted` stores under the key: the contribution itself, or the old entry with the data aggregated into it -/
def mergedValue (old : Option Metric) (m : Metric) : Metric :=
  match old with
  | none => m
  | some o => { o with d := o.d.agg m.d }

theorem find_updAssoc (l : List (MKey × Metric)) (k k' : MKey) (f : Metric → Metric) :
    ((updAssoc l k f).find? (·.1 == k')).map (·.2) =
      if k' = k then ((l.find? (·.1 == k')).map (·.2)).map f else (l.find? (·.1 == k')).map (·.2) := by
  rw [updAssoc, find?_key_map _ (fun p => by split <;> rfl)]
  cases h : l.find? (·.1 == k') with
  | none => split <;> rfl
  | some p =>
    have hp : p.1 = k' := by simpa using List.find?_some h
    simp only [Option.map_some, ← hp, beq_iff_eq]
    split <;> rfl

theorem MTable.find_mergeAdmitted (t : MTable) (k k' : MKey) (m : Metric) :
    (t.mergeAdmitted k m).find k' = if k' = k then some (mergedValue (t.find k) m) else t.find k' := by
  unfold MTable.mergeAdmitted MTable.find
  cases h : t.ms.find? (·.1 == k) with
  | none =>
    simp only [Option.map_none]
    rw [find?_key_append h k' m]
    simp [mergedValue]
  | some p =>
    simp only [Option.map_some]
    rw [find_updAssoc]
    by_cases hk : k' = k
    · subst hk; simp [h, mergedValue]
    · simp [hk]

theorem MTable.mergeMetric_eq_admitted (t : MTable) (k : MKey) (m : Metric)
    (h : t.count < t.max ∨ m.forced = true ∨ (t.find k).isSome) :
    t.mergeMetric k m = t.mergeAdmitted k m := by
  unfold MTable.mergeMetric MTable.mergeAdmitted
  cases hf : t.find k with
  | some _ => rfl
  | none =>
    rcases h with h | h | h
    · have : ¬ (t.count ≥ t.max) := by omega
      simp [this]
    · simp [h]
    · simp [hf] at h

/-! ### what an insertion leaves alone -/

theorem MTable.mergeMetric_failed (t : MTable) (k : MKey) (m : Metric) : (t.mergeMetric k m).failed = t.failed := by
  unfold MTable.mergeMetric
  split
  · split <;> rfl
  · rfl

theorem MTable.mergeOrd_failed (t : MTable) (src : List (MKey × Metric)) : (t.mergeOrd src).failed = t.failed :=
  List.foldlRecOn (motive := fun u => u.failed = t.failed) src _ rfl
    fun u hu p _ => (MTable.mergeMetric_failed u p.1 p.2).trans hu

theorem MTable.mergeAdmitted_failed (t : MTable) (k : MKey) (m : Metric) : (t.mergeAdmitted k m).failed = t.failed := by
  unfold MTable.mergeAdmitted
  split <;> rfl

theorem MTable.mergeAdmitted_count_max (t : MTable) (k : MKey) (m : Metric) :
    (t.mergeAdmitted k m).count ≤ t.count + 1 ∧ (t.mergeAdmitted k m).max = t.max := by
  unfold MTable.mergeAdmitted
  split <;> simp
