/-!
  Model of the daemon's configuration resolution: `config/config.go` (the state-machine lexer), `config/unmarshal.go`
  (typed assignment, for the kinds of settings modelled), Go's `flag.FlagSet.Parse` (`parseOne`), and
  `cmd/daemon/main.go` (`createDaemonFlagSet`, `DaemonFlagSet.Parse`: flags, file, flags again, then the
  address/port rule; the legacy flag set as fall-back).

  Characters are bytes; the lexer model is exact for ASCII input (bytes ≥ 0x80 are treated as "neither space nor
  letter nor digit"; the generator keeps configuration text ASCII, arbitrary bytes are only used to check that the
  real lexer neither panics nor hangs).
-/

abbrev CBytes := List UInt8

def isSpaceB (b : UInt8) : Bool := b == 0x20 || (0x09 ≤ b && b ≤ 0x0D)
def isLetterB (b : UInt8) : Bool := (0x41 ≤ b && b ≤ 0x5A) || (0x61 ≤ b && b ≤ 0x7A)
def isDigitB (b : UInt8) : Bool := 0x30 ≤ b && b ≤ 0x39
def isAlnumB (b : UInt8) : Bool := b == 0x5F || isLetterB b || isDigitB b

/-- `bufio.Reader.ReadBytes(delim)`: the bytes up to and excluding the delimiter and the rest after it; `none` = EOF first -/
def splitAtByte (delim : UInt8) : CBytes → Option (CBytes × CBytes)
  | [] => none
  | b :: rest => if b == delim then some ([], rest) else (splitAtByte delim rest).map (fun p => (b :: p.1, p.2))

theorem splitAtByte_shorter (d : UInt8) (s a r : CBytes) (h : splitAtByte d s = some (a, r)) : r.length < s.length := by
  induction s generalizing a with
  | nil => cases h
  | cons b rest ih =>
    rw [splitAtByte] at h
    split at h
    · cases h; simp
    · obtain ⟨p, hp, hpe⟩ := Option.map_eq_some_iff.mp h
      cases hpe
      exact Nat.lt_succ_of_lt (ih _ hp)

/-- the `strings.NewReplacer` of `lexDoubleQuoteString`: two-byte escapes, everything else verbatim -/
def unescapeDq : CBytes → CBytes
  | 0x5C :: c :: rest =>
    if c == 0x62 then 0x08 :: unescapeDq rest else if c == 0x74 then 0x09 :: unescapeDq rest
    else if c == 0x6E then 0x0A :: unescapeDq rest else if c == 0x76 then 0x0B :: unescapeDq rest
    else if c == 0x66 then 0x0C :: unescapeDq rest else if c == 0x72 then 0x0D :: unescapeDq rest
    else if c == 0x22 then 0x22 :: unescapeDq rest else if c == 0x5C then 0x5C :: unescapeDq rest
    else 0x5C :: unescapeDq (c :: rest)
  | b :: rest => b :: unescapeDq rest
  | [] => []

def trimRightSpace (l : CBytes) : CBytes := (l.reverse.dropWhile isSpaceB).reverse

def stripComment (l : CBytes) : CBytes := l.takeWhile (fun b => b != 0x23 && b != 0x3B)

inductive LexState where
  | initial
  | keyword (tok : CBytes)
  | delimiter (kw : CBytes)
  | value (kw : CBytes)
deriving Repr

inductive LexResult where
  | ok (assignments : List (CBytes × CBytes))     -- (keyword, value) in file order; unknown keywords included
  | err (assignmentsBefore : List (CBytes × CBytes))
deriving Repr, DecidableEq

/-- the lexer (`Decode`): one state-machine step per call; `fuel` = input length + 1 always suffices -/
def lex : Nat → LexState → CBytes → List (CBytes × CBytes) → LexResult
  | 0, _, _, acc => .err acc
  | fuel + 1, st, input, acc =>
    match st, input with
    | .initial, [] => .ok acc
    | .initial, b :: rest =>
      if isSpaceB b then lex fuel .initial rest acc
      else if b == 0x23 || b == 0x3B then
        -- lexComment: skip to the end of the line
        match splitAtByte 0x0A rest with
        | none => .ok acc
        | some (_, rest') => lex fuel .initial rest' acc
      else if isLetterB b then lex fuel (.keyword [b]) rest acc
      else .err acc
    | .keyword _, [] => .ok acc                       -- EOF inside a keyword: io.EOF ends Decode without error
    | .keyword tok, b :: rest =>
      if isAlnumB b || b == 0x2E then lex fuel (.keyword (tok ++ [b])) rest acc
      else if isSpaceB b then lex fuel (.delimiter tok) rest acc
      else if b == 0x3D then lex fuel (.value tok) rest acc
      else .err acc
    | .delimiter _, [] => .err acc                    -- "expected delimiter after keyword"
    | .delimiter kw, b :: rest =>
      if isSpaceB b then lex fuel (.delimiter kw) rest acc
      else if b == 0x3D then lex fuel (.value kw) rest acc
      else .err acc
    | .value kw, [] => .ok (acc ++ [(kw, [])])        -- EOF after '=': the keyword is processed with an empty value
    | .value kw, b :: rest =>
      if isSpaceB b then
        if b == 0x0A then lex fuel .initial rest (acc ++ [(kw, [])])
        else lex fuel (.value kw) rest acc
      else if b == 0x27 then
        match splitAtByte 0x27 rest with
        | none => .err acc
        | some (v, rest') => lex fuel .initial rest' (acc ++ [(kw, v)])
      else if b == 0x22 then
        match splitAtByte 0x22 rest with
        | none => .err acc
        | some (v, rest') => lex fuel .initial rest' (acc ++ [(kw, unescapeDq v)])
      else
        -- raw string: up to the end of the line, trailing comment and trailing space removed
        match splitAtByte 0x0A rest with
        | none => .ok (acc ++ [(kw, b :: trimRightSpace (stripComment rest))])
        | some (line, rest') => lex fuel .initial rest' (acc ++ [(kw, b :: trimRightSpace (stripComment line))])

def lexAll (input : CBytes) : LexResult := lex (input.length + 1) .initial input []

/-! ### settings -/

/-- `limits.DefaultAppTimeout` (tied to the regenerated constant in Props/C19) -/
def DefaultAppTimeoutNs : Nat := 600000000000

/-- the settings modelled (struct fields of `Config`) -/
inductive Field where
  | port | addr | proxy | pidfile | logfile | loglevel | auditlog | cafile | capath | detectAws | maxFiles
  | foreground | pprof | configFile | noPidfile | agent | appTimeout
deriving Repr, DecidableEq, Inhabited

inductive Kind where
  | str | bool | uint | int | level | timeout
deriving Repr, DecidableEq

def Field.kind : Field → Kind
  | .detectAws | .foreground | .noPidfile | .agent => .bool
  | .maxFiles => .uint
  | .pprof => .int
  | .loglevel => .level
  | .appTimeout => .timeout
  | _ => .str

/-- keyword of the configuration file for a field (`config:"…"` tags); `none` = not settable from the file -/
def fileKeyword : List (String × Field) :=
  [("port", .port), ("address", .addr), ("proxy", .proxy), ("pidfile", .pidfile), ("logfile", .logfile),
   ("loglevel", .loglevel), ("auditlog", .auditlog), ("ssl_ca_bundle", .cafile), ("ssl_ca_path", .capath),
   ("utilization.detect_aws", .detectAws), ("rlimit_files", .maxFiles), ("app_timeout", .appTimeout)]

def str (b : CBytes) : String := String.ofList (b.map (fun x => Char.ofNat x.toNat))

def lower (b : CBytes) : CBytes := b.map (fun x => if 0x41 ≤ x && x ≤ 0x5A then x + 0x20 else x)

def allDigits (b : CBytes) : Bool := !b.isEmpty && b.all isDigitB

/-- nanoseconds per unit of `time.ParseDuration` -/
def unitNs (u : String) : Option Nat :=
  match u with
  | "ns" => some 1 | "us" => some 1000 | "ms" => some 1000000 | "s" => some 1000000000
  | "m" => some 60000000000 | "h" => some 3600000000000 | _ => none

/-- `time.ParseDuration` for whole numbers: one or more `<digits><unit>` groups (no fractions; fuel = length), with its
overflow rules: a number above 2^63 is refused (`leadingInt`), a group whose value exceeds `2^63 / unit` is refused, and so is
a running total above 2^63.  `acc` is the total so far. -/
def parseGroups : Nat → Nat → List Char → Option Nat
  | 0, _, _ => none
  | fuel + 1, acc, cs =>
    let ds := cs.takeWhile Char.isDigit
    let rest := cs.dropWhile Char.isDigit
    let us := rest.takeWhile (fun c => !c.isDigit)
    let rest' := rest.dropWhile (fun c => !c.isDigit)
    if ds.isEmpty then none else
    match unitNs (String.ofList us) with
    | none => none
    | some k =>
      let n := (String.ofList ds).toNat!
      if n > 2 ^ 63 || n > 2 ^ 63 / k then none else
      let d := acc + n * k
      if d > 2 ^ 63 then none else
      if rest'.isEmpty then some d else parseGroups fuel d rest'

/-- the part of `time.ParseDuration` after the sign: "0" alone is zero; otherwise the groups; the negative range reaches 2^63,
the positive one 2^63 - 1 -/
def finishTimeout (neg : Bool) (body : List Char) : Option Int :=
  if body == ['0'] then some 0 else
  match parseGroups (body.length + 1) 0 body with
  | none => none
  | some n => if neg then some (-(n : Int)) else if n > 2 ^ 63 - 1 then none else some (n : Int)

/-- `config.Timeout.UnmarshalText`: a value that ends in a digit gets the unit "ms"; then `time.ParseDuration` (whole
numbers; an optional sign; "0" alone is zero).  The stored value is the number of nanoseconds. -/
def parseTimeout (v : CBytes) : Option Int :=
  let cs := (str v).toList
  let cs := match cs.getLast? with
    | some c => if c.isDigit then cs ++ ['m', 's'] else cs
    | none => cs
  let (neg, body) := match cs with
    | '-' :: r => (true, r)
    | '+' :: r => (false, r)
    | r => (false, r)
  finishTimeout neg body

/-- typed assignment (`unmarshalValue` / `flag.Value.Set`): the canonical stored value, or `none` = error.
    `fromFile` selects the file's conventions (empty value = zero value; yes/no/on/off words). -/
def convert (k : Kind) (fromFile : Bool) (v : CBytes) : Option CBytes :=
  match k with
  | .str => some v
  | .bool =>
    if fromFile && v.isEmpty then some "false".toUTF8.toList else
    let w := if fromFile then lower v else v
    let s := str w
    if fromFile && (s == "y" || s == "yes" || s == "on") then some "true".toUTF8.toList
    else if fromFile && (s == "n" || s == "no" || s == "off") then some "false".toUTF8.toList
    else if s == "1" || s == "t" || s == "true" || (!fromFile && (s == "T" || s == "TRUE" || s == "True")) then some "true".toUTF8.toList
    else if s == "0" || s == "f" || s == "false" || (!fromFile && (s == "F" || s == "FALSE" || s == "False")) then some "false".toUTF8.toList
    else none
  | .uint =>
    if fromFile && v.isEmpty then some "0".toUTF8.toList
    else if allDigits v && v.length ≤ 9 then some ((toString (str v).toNat!).toUTF8.toList) else none
  | .int =>
    if allDigits v && v.length ≤ 9 then some ((toString (str v).toNat!).toUTF8.toList) else none
  | .level =>
    let s := str (lower v)
    if s == "always" then some "always".toUTF8.toList else if s == "error" then some "error".toUTF8.toList
    else if s == "warning" then some "warning".toUTF8.toList else if s == "healthcheck" then some "healthcheck".toUTF8.toList
    else if s == "info" || s == "" then some "info".toUTF8.toList
    else if s == "debug" || s == "verbose" || s == "verbosedebug" then some "debug".toUTF8.toList
    else none
  | .timeout => (parseTimeout v).map (fun n => (toString n).toUTF8.toList)

abbrev Cfg := List (Field × CBytes)

def Cfg.get (c : Cfg) (f : Field) : CBytes := ((c.find? (·.1 == f)).map (·.2)).getD []
def Cfg.set (c : Cfg) (f : Field) (v : CBytes) : Cfg := (f, v) :: c.filter (·.1 != f)

def defaultCfg : Cfg :=
  [(.loglevel, "info".toUTF8.toList), (.maxFiles, "2048".toUTF8.toList), (.detectAws, "true".toUTF8.toList),
   (.foreground, "false".toUTF8.toList), (.noPidfile, "false".toUTF8.toList), (.agent, "false".toUTF8.toList), (.pprof, "0".toUTF8.toList),
   (.appTimeout, (toString DefaultAppTimeoutNs).toUTF8.toList)]

abbrev Assign := List (Field × CBytes)

def applyAssign (as : Assign) (c : Cfg) : Cfg := as.foldl (fun c a => c.set a.1 a.2) c

/-- typed assignments denoted by lexed (keyword, value) pairs: unknown keywords are ignored, a value that does not
    convert is an error (the assignments before it stay) -/
def fileAssign : List (CBytes × CBytes) → Assign × Bool
  | [] => ([], true)
  | (kw, v) :: rest =>
    match fileKeyword.find? (·.1 == str kw) with
    | none => fileAssign rest
    | some (_, f) =>
      match convert f.kind true v with
      | none => ([], false)
      | some cv => let (as, ok) := fileAssign rest; ((f, cv) :: as, ok)

/-- assignments denoted by a configuration text (`config.ParseString` / `ParseFile`): the real code assigns while
    lexing, so assignments before a syntax error remain applied -/
def textAssign (text : CBytes) : Assign × Bool :=
  match lexAll text with
  | .ok as => fileAssign as
  | .err as => ((fileAssign as).1, false)

def parseInto (text : CBytes) (c : Cfg) : Cfg × Bool := (applyAssign (textAssign text).1 c, (textAssign text).2)

/-! ### Go's flag package -/

structure FlagDef where
  name : String
  field : Option Field      -- none = `--define`
  isBool : Bool
deriving Repr

def daemonFlags : List FlagDef :=
  [⟨"c", some .configFile, false⟩, ⟨"port", some .port, false⟩, ⟨"address", some .addr, false⟩, ⟨"proxy", some .proxy, false⟩,
   ⟨"pidfile", some .pidfile, false⟩, ⟨"no-pidfile", some .noPidfile, true⟩, ⟨"logfile", some .logfile, false⟩,
   ⟨"loglevel", some .loglevel, false⟩, ⟨"auditlog", some .auditlog, false⟩, ⟨"f", some .foreground, true⟩,
   ⟨"foreground", some .foreground, true⟩, ⟨"agent", some .agent, true⟩, ⟨"cafile", some .cafile, false⟩,
   ⟨"capath", some .capath, false⟩, ⟨"pprof", some .pprof, false⟩, ⟨"define", none, false⟩]

def legacyFlags : List FlagDef :=
  [⟨"c", some .configFile, false⟩, ⟨"P", some .addr, false⟩, ⟨"x", some .proxy, false⟩, ⟨"p", some .pidfile, false⟩,
   ⟨"no-pidfile", some .noPidfile, true⟩, ⟨"l", some .logfile, false⟩, ⟨"d", some .loglevel, false⟩, ⟨"a", some .auditlog, false⟩,
   ⟨"f", some .foreground, true⟩, ⟨"A", some .agent, true⟩, ⟨"b", some .cafile, false⟩, ⟨"S", some .capath, false⟩]

/-- split `name=value` at the first '=' after the first character (as `parseOne` does) -/
def splitEq (name : List Char) : List Char × Option (List Char) :=
  match name with
  | [] => ([], none)
  | c :: rest =>
    match rest.span (· != '=') with
    | (a, []) => (c :: a, none)
    | (a, _ :: v) => (c :: a, some v)

def bytesOf (s : List Char) : CBytes := (String.ofList s).toUTF8.toList

/-- `flag.FlagSet.Parse`: the assignments the argument vector denotes, in order; `false` = a parse error (the
    assignments before the error are kept, as in Go).  Independent of the configuration being assigned to. -/
def flagAssign (defs : List FlagDef) : Nat → List String → Assign × Bool
  | 0, _ => ([], true)
  | _ + 1, [] => ([], true)
  | fuel + 1, s :: rest =>
    let cs := s.toList
    if cs.length < 2 || cs.head? != some '-' then ([], true)          -- first non-flag argument stops parsing
    else
      let two := cs.getD 1 ' ' == '-'
      if two && cs.length == 2 then ([], true)                        -- "--" terminates
      else
        let name := cs.drop (if two then 2 else 1)
        if name.isEmpty || name.head? == some '-' || name.head? == some '=' then ([], false)
        else
          let (nm, val) := splitEq name
          match defs.find? (·.name == String.ofList nm) with
          | none => ([], false)                                        -- unknown flag (or -h/-help)
          | some d =>
            if d.isBool then
              match d.field with
              | some f =>
                match convert .bool false (match val with | some v => bytesOf v | none => "true".toUTF8.toList) with
                | some cv => let (as, ok) := flagAssign defs fuel rest; ((f, cv) :: as, ok)
                | none => ([], false)
              | none => ([], false)
            else
              -- a value flag takes `=value` or the next argument
              let (value, rest') : Option CBytes × List String := match val with
                | some v => (some (bytesOf v), rest)
                | none => match rest with
                  | v :: r => (some v.toUTF8.toList, r)
                  | [] => (none, [])
              match value with
              | none => ([], false)
              | some v =>
                match d.field with
                | some f =>
                  match convert f.kind false v with
                  | some cv => let (as, ok) := flagAssign defs fuel rest'; ((f, cv) :: as, ok)
                  | none => ([], false)
                | none =>
                  -- --define: the value is parsed with the configuration-file syntax
                  let (das, dok) := textAssign v
                  if dok then let (as, ok) := flagAssign defs fuel rest'; (das ++ as, ok) else (das, false)

def flagParse (defs : List FlagDef) (fuel : Nat) (args : List String) (c : Cfg) : Cfg × Bool :=
  (applyAssign (flagAssign defs fuel args).1 c, (flagAssign defs fuel args).2)

/-- `parseConfigFile`: `file` maps the configured path to the file's content (`none` = cannot be opened) -/
def parseConfigFile (file : CBytes → Option CBytes) (c : Cfg) : Cfg × Bool :=
  let path := c.get .configFile
  if path.isEmpty then (c, true)
  else match file path with
    | none => (c, false)
    | some text => parseInto text c

structure Resolved where
  cfg : Cfg
  ok : Bool
  warning : Bool := false
  legacy : Bool := false

/-- the address/port rule at the end of `DaemonFlagSet.Parse` -/
def addressRule (c : Cfg) (defaultSocket : CBytes) : Cfg × Bool :=
  let addr := c.get .addr
  let port := c.get .port
  if addr.isEmpty && port.isEmpty then (c.set .addr defaultSocket, false)
  else if !addr.isEmpty && !port.isEmpty then (c, true)
  else if addr.isEmpty then (c.set .addr port, false)
  else (c, false)

/-- `configure()`: flags, file, flags again, address rule; on an error of the new-style pass the legacy flag set is
    tried from the defaults (flags, file, flags) -/
def configure (args : List String) (file : CBytes → Option CBytes) (defaultSocket : CBytes) : Resolved :=
  let n := args.length + 1
  let (c1, ok1) := flagParse daemonFlags n args defaultCfg
  let newStyle : Option (Cfg × Bool) :=
    if !ok1 then none else
    let (c2, ok2) := parseConfigFile file c1
    if !ok2 then none else
    let (c3, ok3) := flagParse daemonFlags n args c2
    if !ok3 then none else some (addressRule c3 defaultSocket)
  match newStyle with
  | some (c, w) => { cfg := c, ok := true, warning := w }
  | none =>
    let (l1, lok1) := flagParse legacyFlags n args defaultCfg
    if !lok1 then { cfg := l1, ok := false, legacy := true } else
    let (l2, lok2) := parseConfigFile file l1
    if !lok2 then { cfg := l2, ok := false, legacy := true } else
    let (l3, _) := flagParse legacyFlags n args l2
    { cfg := l3, ok := true, legacy := true }
