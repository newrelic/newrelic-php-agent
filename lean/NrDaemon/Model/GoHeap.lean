/-
  Transcription of Go's container/heap (up, down, Init, Push, Pop) over `Array α` with an integer key.
  Hand-written model; validated against the real library through the reservoir/errheap/traces engines.
-/
namespace GoHeap

variable {α : Type}

def minChild (key : α → Int) (a : Array α) (i n : Nat) (hn : n ≤ a.size) (h1 : 2 * i + 1 < n) : Nat :=
  if h2 : 2 * i + 2 < n then
    (if key a[2 * i + 2] < key a[2 * i + 1] then 2 * i + 2 else 2 * i + 1)
  else 2 * i + 1

theorem minChild_cases (key : α → Int) (a : Array α) (i n : Nat) (hn : n ≤ a.size) (h1 : 2 * i + 1 < n) :
    minChild key a i n hn h1 = 2 * i + 1 ∨ (minChild key a i n hn h1 = 2 * i + 2 ∧ 2 * i + 2 < n) := by
  fun_cases minChild key a i n hn h1
  next h2 _ => exact .inr ⟨rfl, h2⟩
  next => exact .inl rfl
  next => exact .inl rfl

theorem minChild_lt (key : α → Int) (a : Array α) (i n : Nat) (hn : n ≤ a.size) (h1 : 2 * i + 1 < n) :
    minChild key a i n hn h1 < n := by
  rcases minChild_cases key a i n hn h1 with h | ⟨h, h'⟩ <;> rw [h] <;> assumption

/-- `down(h, i, n)` of Go's container/heap (result array only). -/
def down (key : α → Int) (a : Array α) (i n : Nat) (hn : n ≤ a.size) : Array α :=
  if h1 : 2 * i + 1 < n then
    have hj := minChild_lt key a i n hn h1
    if key (a[minChild key a i n hn h1]'(by omega)) < key (a[i]'(by omega)) then
      down key (a.swap i (minChild key a i n hn h1) (by omega) (by omega)) (minChild key a i n hn h1) n (by simpa using hn)
    else a
  else a
termination_by n - i
decreasing_by
  have := minChild_cases key a i n hn h1
  omega

theorem size_down (key : α → Int) (a : Array α) (i n : Nat) (hn : n ≤ a.size) :
    (down key a i n hn).size = a.size := by
  fun_induction down key a i n hn
  next ih => exact ih.trans Array.size_swap
  next => rfl
  next => rfl

def up (key : α → Int) (a : Array α) (j : Nat) (hj : j < a.size) : Array α :=
  if h : 0 < j then
    if key a[j] < key (a[(j - 1) / 2]'(by omega)) then
      up key (a.swap ((j - 1) / 2) j (by omega) hj) ((j - 1) / 2) (by simp; omega)
    else a
  else a
termination_by j
decreasing_by omega

theorem size_up (key : α → Int) (a : Array α) (j : Nat) (hj : j < a.size) :
    (up key a j hj).size = a.size := by
  fun_induction up key a j hj
  next ih => exact ih.trans Array.size_swap
  next => rfl
  next => rfl

/-- `for i := n/2 - 1; i >= 0; i-- { down(h, i, n) }`, written as a count-down on `k = i+1`. -/
def initLoop (key : α → Int) (a : Array α) (k : Nat) : Array α :=
  match k with
  | 0 => a
  | k + 1 => initLoop key (down key a k a.size (Nat.le_refl _)) k

def heapInit (key : α → Int) (a : Array α) : Array α := initLoop key a (a.size / 2)

theorem size_initLoop (key : α → Int) (a : Array α) (k : Nat) : (initLoop key a k).size = a.size := by
  induction k generalizing a with
  | zero => rfl
  | succ k ih => exact (ih _).trans (size_down ..)

def heapPush (key : α → Int) (a : Array α) (x : α) : Array α :=
  up key (a.push x) a.size (by simp)

/-- `heap.Pop`: swap(0, n); down(0, n); remove last. Returns the new array (the popped element is `a[0]`). -/
def heapPop (key : α → Int) (a : Array α) (h0 : 0 < a.size) : Array α :=
  (down key (a.swap 0 (a.size - 1) h0 (by omega)) 0 (a.size - 1) (by simp)).pop

end GoHeap
