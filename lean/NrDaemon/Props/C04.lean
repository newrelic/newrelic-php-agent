import NrDaemon.Props.Reviewed
import NrDaemon.Gen.Skeleton
import NrDaemon.Lemmas.HarvestReqs
import NrDaemon.Lemmas.Lifecycle
import NrDaemon.Lemmas.AppKey
import NrDaemon.Gen.AppKey
import NrDaemon.Props.C10
/-!
  C04 — applications are isolated from each other.
-/
open Gen.Limits

/-- **C04 (data under an unknown, stale or foreign-but-absent run id is dropped).** -/
theorem C04_unknown_dropped (s : PState) (r : String) (t : TxnM) (h : getRun s r = none) :
    processTxn s r t = s :=
  C10_unknown_run_no_effect s r (fun h => aggregateTxn h t) h

/-- **C04 (frame): a transaction for one run leaves every other run's harvest untouched.** -/
theorem C04_txn_frame (s : PState) (r r' : String) (t : TxnM) (hne : r' ≠ r) :
    getRun (processTxn s r t) r' = getRun s r' :=
  C10_other_runs_untouched s r r' (fun h => aggregateTxn h t) hne

/-- **C04 (every request made by a harvest carries the harvested application's own parameters).**  For the
event categories, default data and the all-at-once harvest alike: run id, license key, collector host, request
headers and agent language of each emitted request are those captured from the harvested application. -/
theorem C04_request_params (s : PState) (a : HArgs) (l : List (Cat × Payload)) :
    ∀ r ∈ (considerMany s a l).2,
      r.run = a.run ∧ r.license = a.license ∧ r.collector = a.collector ∧ r.hdr = a.hdr ∧ r.lang = a.lang :=
  fun _ hr => (considerMany_mem hr).1

/-- … and contains exactly one of the detached containers of that harvest (never another run's data) -/
theorem C04_request_payload (s : PState) (a : HArgs) (l : List (Cat × Payload)) :
    ∀ r ∈ (considerMany s a l).2, (r.cat, r.payload) ∈ l :=
  fun _ hr => (considerMany_mem hr).2.1

/-- the arguments `doHarvest` builds come from the harvested application only -/
theorem C04_args_from_app (s : PState) (runId : String) (run : RunM) (app : AppM) (cfg : RunCfg)
    (ha : getApp s run.app = some app) (hr : app.reply = some cfg)
    (hact : ¬ (s.appTimeout > 0 ∧ s.now - app.lastActivity ≥ s.appTimeout)) (mask : Nat) :
    doHarvest s runId run mask =
      (let a : HArgs := { run := runId, license := app.cfg.license, collector := app.collector, hdr := cfg.hdr,
                          lang := app.cfg.lang, rules := cfg.rules, split := app.cfg.dt, maxPayload := cfg.maxPayload, group := 0 }
       let (s', reqs) := harvestByType s runId run app cfg mask a
       let gid := s'.nextGroup - 1
       let (s'', more) := if s'.groups.any (fun g => g.id == gid && g.outstanding == 0) then settleGroup s' gid else (s', [])
       (s'', reqs ++ more)) := by
  have hc : (decide (s.appTimeout > 0) && decide (s.now - app.lastActivity ≥ s.appTimeout)) = false :=
    (Bool.decide_and _ _).symm.trans (decide_eq_false hact)
  simp only [doHarvest, ha, hc, hr]
  rfl

/-- the data-usage request of a harvest group also carries that harvest's own parameters -/
theorem C04_data_usage_params (s : PState) (gid : Nat) :
    ∀ r ∈ (settleGroup s gid).2, ∃ g ∈ s.groups, g.id = gid ∧ r.run = g.run ∧ r.license = g.license ∧
      r.collector = g.collector ∧ r.hdr = g.hdr := by
  fun_cases settleGroup s gid
  -- a request is made on the last path only: the group exists, nothing is outstanding, the queue is not empty
  iterate 3 exact fun _ hr => nomatch hr
  next g hg _ _ _ _ =>
    intro r hr
    obtain rfl := List.mem_singleton.mp hr
    exact ⟨g, List.mem_of_find?_eq_some hg, by simpa using List.find?_some hg, rfl, rfl, rfl, rfl⟩

/-- **C04 (a harvest event keeps its own run id — live run or not).**  Whatever AppHarvest a harvest event carries (the
run's current one, or that of a run that has been shut down and whose timer tick was still on its way), every request made
for it — by the combined path or by any mixture of per-category branches — carries the run id OF THAT EVENT and the
license key, collector host and request headers captured for it from the application; never the id of the application's
current run. -/
theorem C04_harvest_keeps_event_run_id (s : PState) (runId : String) (run : RunM) (app : AppM) (cfg : RunCfg) (mask : Nat) (a : HArgs) :
    ∀ r ∈ (harvestByType s runId run app cfg mask a).2,
      r.run = a.run ∧ r.license = a.license ∧ r.collector = a.collector ∧ r.hdr = a.hdr ∧ r.lang = a.lang := by
  intro r hr
  unfold harvestByType at hr
  split at hr
  · exact (harvestAllPart_mem s runId run app cfg a r hr).1
  · exact (harvestTypesPart_mem s runId run app cfg mask a r hr).1

/-- **C04 (an application's identity never changes; all histories).**  Once an application is known under a handle, no
sequence of agent queries, transactions, triggers, replies (any outcome, any order) or clock advances changes its
description — license, name, redirect collector, high-security flag, language, host, … — which is what every request made
for its runs is built from (`C04_args_from_app`); the application can only be forgotten (inactivity). -/
theorem C04_identity_stable (s : PState) (es : List PEvent) (h : String) (c : AppCfg) (hc : appCfg s h = some c) :
    appCfg (s.runEvents es) h = some c ∨ ∃ es1 es2, es = es1 ++ es2 ∧ appCfg (s.runEvents es1) h = none := by
  induction es generalizing s with
  | nil => exact Or.inl hc
  | cons e es ih =>
    rcases step_cfg s e h c hc with h1 | h1
    · rcases ih (s.step e) h1 with h2 | ⟨es1, es2, he, hn⟩
      · exact Or.inl h2
      · exact Or.inr ⟨e :: es1, es2, by simp [he], hn⟩
    · exact Or.inr ⟨[e], es, rfl, h1⟩

/-! ## Identity of an application (`AppInfo.Key`, `getSupportedPoliciesHash`; `Model/AppKey.lean`) -/

/-- **C04 (what the code compares).**  Two descriptions have the same key iff they agree on license, name, redirect
collector, high-security flag, language, host name, trace-observer host and port, and on the *concatenation* of the
sorted names of their supported policies (the bytes that are hashed). -/
theorem C04_appkey_components (a b : AppDesc) :
    appKey a = appKey b ↔
      (a.license = b.license ∧ a.appname = b.appname ∧ a.redirect = b.redirect ∧ a.highSec = b.highSec ∧
       a.lang = b.lang ∧ hashInput a = hashInput b ∧ a.host = b.host ∧ a.toHost = b.toHost ∧ a.toPort = b.toPort) := by
  simp only [appKey, AppKeyM.mk.injEq]

/-- the sorted list of supported names is a canonical form of the *set* of supported policies -/
theorem C04_supported_canonical (a b : AppDesc) :
    supportedNames a = supportedNames b ↔
      ((a.policies.filter (·.2)).map (·.1)).Perm ((b.policies.filter (·.2)).map (·.1)) :=
  mergeSort_bytes_eq_iff _ _

/-- **C04 (same application iff the eight components agree) — partial.**  The statement of the property, for policy
names that are non-empty and of which none is a proper prefix of another (true of the agent's vocabulary, see
`C04_policy_vocabulary_prefix_free`).  What is missing for arbitrary names is `C04_appkey_collision`. -/
theorem C04_appkey_iff_partial (a b : AppDesc)
    (hne : ∀ n, (n ∈ supportedNames a ∨ n ∈ supportedNames b) → n ≠ [])
    (hpf : ∀ x y, (x ∈ supportedNames a ∨ x ∈ supportedNames b) → (y ∈ supportedNames a ∨ y ∈ supportedNames b) →
      x <+: y → x = y) :
    appKey a = appKey b ↔ sameIdentity a b := by
  have : hashInput a = hashInput b ↔ supportedNames a = supportedNames b :=
    ⟨flatten_inj_of_prefixFree _ _ hne hpf, congrArg List.flatten⟩
  rw [C04_appkey_components, sameIdentity, this]

/-- one direction holds for all names: descriptions that agree on the eight components have the same key -/
theorem C04_same_identity_same_key (a b : AppDesc) (h : sameIdentity a b) : appKey a = appKey b := by
  rw [C04_appkey_components]
  obtain ⟨h1, h2, h3, h4, h5, h6, h7, h8, h9⟩ := h
  exact ⟨h1, h2, h3, h4, h5, by unfold hashInput; rw [h6], h7, h8, h9⟩

private def exA : AppDesc :=
  { license := [76], appname := [97], redirect := [], highSec := false, lang := [112], host := [104], toHost := [], toPort := 0,
    policies := [([97, 98], true), ([99], true)] }      -- supports "ab", "c"
private def exB : AppDesc := { exA with policies := [([97], true), ([98, 99], true)] }   -- supports "a", "bc"

private theorem sn_exA : supportedNames exA = [[97, 98], [99]] :=
  List.mergeSort_of_pairwise (by decide)
private theorem sn_exB : supportedNames exB = [[97], [98, 99]] :=
  List.mergeSort_of_pairwise (by decide)

/-- **C04 (the unrestricted statement is false of the code).**  Names are concatenated without a separator before
hashing: an application supporting the policies `ab`, `c` and one supporting `a`, `bc` differ in their supported
policies and have the same key.  Replayed on the implementation by `corpus/C04/policy_concat.ops` (known finding). -/
theorem C04_appkey_collision : ∃ a b : AppDesc, ¬ sameIdentity a b ∧ appKey a = appKey b := by
  refine ⟨exA, exB, ?_, ?_⟩
  · intro h
    have h6 := h.2.2.2.2.2.1
    rw [sn_exA, sn_exB] at h6
    exact absurd h6 (by decide)
  · rw [C04_appkey_components]
    refine ⟨rfl, rfl, rfl, rfl, rfl, ?_, rfl, rfl, rfl⟩
    unfold hashInput
    rw [sn_exA, sn_exB]
    decide

/-- fields that are not part of the identity never influence the key -/
theorem C04_appkey_ignores_rest (a : AppDesc) (v d t k : Bytes) (q : Nat) (ps : List (Bytes × Bool))
    (hps : (ps.filter (·.2)).map (·.1) = (a.policies.filter (·.2)).map (·.1)) :
    appKey { a with agentVersion := v, displayName := d, token := t, dockerId := k, spanQueue := q, policies := ps } = appKey a := by
  simp [appKey, hashInput, supportedNames, hps]

/-- the policy names the PHP agent knows (agent/php_txn.c, axiom/nr_txn.c) -/
def agentPolicyVocabulary : List String :=
  ["record_sql", "allow_raw_exception_messages", "custom_events", "custom_parameters",
   "custom_instrumentation_editor", "message_parameters", "job_arguments", "attributes_include"]

/-- … are non-empty and none is a prefix of another, so `C04_appkey_iff_partial` applies to every pair of
descriptions built from them -/
theorem C04_policy_vocabulary_prefix_free :
    (agentPolicyVocabulary.all (fun x => x.toList ≠ [])) = true ∧
    (agentPolicyVocabulary.all (fun x => agentPolicyVocabulary.all (fun y => !(x.toList.isPrefixOf y.toList) || x == y))) = true := by
  simp only [agentPolicyVocabulary, List.all_cons, List.all_nil, beq_self_eq_true]
  -- a literal unfolds to `String.ofList […]` for free; evaluating `String.toList` on it (UTF-8 decoding) costs the kernel ~20 k heartbeats a character
  repeat rw [String.toList_ofList]
  decide +kernel

/-- **C04 (tie).**  The key has exactly these nine fields, `(*AppInfo).Key()` fills each from the description field the
model uses, `(*App).Key()` delegates, and the policy hash skips unsupported policies, sorts, joins with the empty
separator and hashes with SHA-256 — as regenerated from app.go / lasp.go. -/
theorem C04_appkey_tied :
    Gen.AppKey.fields = ["License:collector.LicenseKey", "Appname:string", "RedirectCollector:string", "HighSecurity:bool",
      "AgentLanguage:string", "AgentPolicies:string", "AgentHostname:string", "TraceObserverHost:string",
      "TraceObserverPort:uint16"] ∧
    Gen.AppKey.keyOf = ["License:info.License", "Appname:info.Appname", "RedirectCollector:info.RedirectCollector",
      "HighSecurity:info.HighSecurity", "AgentLanguage:info.AgentLanguage",
      "AgentPolicies:info.SupportedSecurityPolicies.getSupportedPoliciesHash()", "AgentHostname:info.Hostname",
      "TraceObserverHost:info.TraceObserverHost", "TraceObserverPort:info.TraceObserverPort"] ∧
    Gen.AppKey.appDelegates = true ∧ Gen.AppKey.hashSkipsUnsupported = true ∧
    Gen.AppKey.hashCollects = "policies=append(policies,name)" ∧ Gen.AppKey.hashSorts = true ∧
    Gen.AppKey.hashJoinSep = "\"\"" ∧ Gen.AppKey.hashFn = "sha256.New" :=
  ⟨rfl, rfl, rfl, rfl, rfl, rfl, rfl, rfl⟩

/-- `processTxnData` / `processSpanBatch` as last reviewed: data is routed by run id only, an unknown id is dropped before anything else
happens; the transaction is decoded under a deferred `recover` (C10) -/
def reviewedProcessTxnData : List String := [
  "h, ok := p.harvests[d.ID]",
  "if !ok {",
  "return",
  "}",
  "h.App.LastActivity = time.Now(…)",
  "defer func(){if err := recover(…); err!=nil {; }}()",
  "d.Sample.AggregateInto(…)"
]
def reviewedProcessSpanBatch : List String := [
  "h, ok := p.harvests[d.id]",
  "if !ok {",
  "return",
  "}",
  "if h.TraceObserver!=nil {",
  "h.TraceObserver.QueueBatch(…)",
  "}",
  "else {",
  "}"
]

/-- **C04 (tie: routing by run id is the code's).** -/
theorem C04_routing_source_tied :
    Gen.Skeleton.processTxnData = reviewedProcessTxnData ∧ Gen.Skeleton.processSpanBatch = reviewedProcessSpanBatch := ⟨rfl, rfl⟩


/-! ## Ties to the current source: the functions transcribed by the model have not changed since they were reviewed (`Props/Reviewed.lean`) -/

/-- **C04 (tie).**  `doHarvest`: the request parameters of a harvest are built from the harvest event (run id) and the harvested application only. -/
theorem C04_doharvest_source_tied : Gen.Skeleton.doHarvest = Reviewed.doHarvest := rfl

/-- **C04 (tie).**  `harvestPayload`: the sender goroutine of one request: Execute, then - on failure only - the very container it sent goes back to the processor; nothing else touches or releases it. -/
theorem C04_harvest_payload_source_tied : Gen.Skeleton.harvestPayload = Reviewed.harvestPayload := rfl
