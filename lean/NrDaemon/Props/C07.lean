import NrDaemon.Props.Reviewed
import NrDaemon.Gen.Skeleton
import NrDaemon.Lemmas.Metrics
import NrDaemon.Model.Rules
import NrDaemon.Props.Tied
import NrDaemon.Lemmas.Regex
import NrDaemon.Gen.Rules
import NrDaemon.Lemmas.HarvestReqs
/-!
  C07 — metric aggregation is order-independent and rename rules are applied faithfully.

  Exact integer arithmetic (DESIGN §3).  `mergeAdmitted` is `mergeMetric` without the capacity check;
  `C07_below_capacity` shows they coincide whenever the capacity limit does not refuse (the property's
  "refusals at the capacity limit aside").
-/

abbrev Contribution := MKey × Metric

def applyAll (t : MTable) (cs : List Contribution) : MTable :=
  cs.foldl (fun t c => t.mergeAdmitted c.1 c.2) t

def dataFor (k : MKey) (cs : List Contribution) : List MData := (cs.filter (·.1 == k)).map (·.2.d)

/-- **C07 (aggregate is commutative).** -/
theorem C07_aggregate_comm (a b : MData) : a.agg b = b.agg a := MData.agg_comm a b

/-- **C07 (aggregate is associative).** -/
theorem C07_aggregate_assoc (a b c : MData) : (a.agg b).agg c = a.agg (b.agg c) := MData.agg_assoc a b c

/-- **C07 (combination is independent of arrival order).** -/
theorem C07_combine_perm (l1 l2 : List MData) (p : l1.Perm l2) : combine l1 = combine l2 :=
  combineFrom_perm none l1 l2 p

/-- **C07 (combination is independent of grouping)**: combining two groups separately (two transactions, a
carried-over table and the current one, two merged tables) and then combining the results equals combining all. -/
theorem C07_combine_regroup (l1 l2 : List MData) :
    combine (l1 ++ l2) = match combine l1, combine l2 with
      | none, r => r
      | some a, none => some a
      | some a, some b => some (a.agg b) := by
  unfold combine
  rw [combineFrom_append]
  cases h1 : combineFrom none l1 with
  | none => rfl
  | some a =>
    rw [combineFrom_some_eq]
    cases h2 : combine l2 <;> simp_all [combine]

theorem find_applyAll (t : MTable) (cs : List Contribution) (k : MKey) :
    ((applyAll t cs).find k).map (·.d) = combineFrom ((t.find k).map (·.d)) (dataFor k cs) := by
  induction cs generalizing t with
  | nil => rfl
  | cons c cs ih =>
    have hstep : applyAll t (c :: cs) = applyAll (t.mergeAdmitted c.1 c.2) cs := rfl
    rw [hstep, ih, MTable.find_mergeAdmitted]
    by_cases hk : k = c.1
    · subst hk
      have hd : dataFor c.1 (c :: cs) = c.2.d :: dataFor c.1 cs := by simp [dataFor]
      rw [hd]
      cases t.find c.1 <;> simp [mergedValue, combineFrom, aggO]
    · have hd : dataFor k (c :: cs) = dataFor k cs := by simp [dataFor, beq_false_of_ne (Ne.symm hk)]
      simp [hk, hd]

/-- **C07 (table value).**  After any sequence of admitted contributions to an empty table, the data held for a
name and scope is the field-wise combination of all contributions received for it (and nothing is held for a
key that received none). -/
theorem C07_table_value (max : Nat) (cs : List Contribution) (k : MKey) :
    ((applyAll (MTable.new max) cs).find k).map (·.d) = combine (dataFor k cs) := by
  rw [find_applyAll]
  simp [MTable.new, MTable.find, combine]

/-- **C07 (table is order-independent).**  Any two arrival orders of the same multiset of contributions give the
same data for every name and scope. -/
theorem C07_table_perm (t : MTable) (cs1 cs2 : List Contribution) (p : cs1.Perm cs2) (k : MKey) :
    ((applyAll t cs1).find k).map (·.d) = ((applyAll t cs2).find k).map (·.d) := by
  rw [find_applyAll, find_applyAll]
  apply combineFrom_perm
  exact (p.filter _).map _

theorem applyAll_failed_max (t : MTable) (cs : List Contribution) :
    (applyAll t cs).failed = t.failed ∧ (applyAll t cs).max = t.max :=
  List.foldlRecOn (motive := fun u => u.failed = t.failed ∧ u.max = t.max) cs _ ⟨rfl, rfl⟩
    fun u hu c _ =>
      ⟨(MTable.mergeAdmitted_failed u c.1 c.2).trans hu.1, (MTable.mergeAdmitted_count_max u c.1 c.2).2.trans hu.2⟩

/-- **C07 (below the capacity nothing is refused).**  While the table has room for every contribution the real
insertion (`mergeMetric`, with its capacity check) coincides with plain insertion, so the theorems above
describe the code's result exactly. -/
theorem C07_below_capacity (t : MTable) (cs : List Contribution) (h : t.count + cs.length ≤ t.max) :
    cs.foldl (fun t c => t.mergeMetric c.1 c.2) t = applyAll t cs := by
  induction cs generalizing t with
  | nil => rfl
  | cons c cs ih =>
    rw [List.length_cons] at h
    have hc := MTable.mergeAdmitted_count_max t c.1 c.2
    rw [List.foldl_cons, MTable.mergeMetric_eq_admitted t c.1 c.2 (Or.inl (by omega)), ih _ (by omega)]
    rfl

/-- forced contributions are never refused, whatever the fill level -/
theorem C07_forced_never_refused (t : MTable) (k : MKey) (d : MData) :
    t.addRaw k d true = t.mergeAdmitted k { forced := true, d := d } :=
  MTable.mergeMetric_eq_admitted t k _ (Or.inr (Or.inl rfl))

/-! ### rename rules at the table level -/

def renamed (rename : String → String) (order : List Contribution) : List Contribution :=
  order.map (fun p => ((rename p.1.1, p.1.2), p.2))

theorem applyRulesOrd_eq (t : MTable) (rename : String → String) (order : List Contribution) :
    t.applyRulesOrd rename order = applyAll { MTable.new t.max with failed := t.failed } (renamed rename order) := by
  unfold MTable.applyRulesOrd applyAll renamed
  rw [List.foldl_map]

/-- **C07 (renamed metrics are combined).**  After `ApplyRules`, the data reported under a name and scope is the
field-wise combination of all source metrics that the rules rename to it. -/
theorem C07_rename_combines (t : MTable) (rename : String → String) (order : List Contribution) (k : MKey) :
    ((t.applyRulesOrd rename order).find k).map (·.d) = combine (dataFor k (renamed rename order)) := by
  rw [applyRulesOrd_eq, find_applyAll]
  simp [MTable.new, MTable.find, combine]

/-- **C07 (renaming is independent of the map iteration order).** -/
theorem C07_rename_order_independent (t : MTable) (rename : String → String)
    (o1 o2 : List Contribution) (p : o1.Perm o2) (k : MKey) :
    ((t.applyRulesOrd rename o1).find k).map (·.d) = ((t.applyRulesOrd rename o2).find k).map (·.d) := by
  rw [applyRulesOrd_eq, applyRulesOrd_eq]
  exact C07_table_perm _ _ _ (p.map _) k

/-- **C07 (no admitted metric is lost by renaming).**  Every metric of the source table is present, under its
new name and old scope, in the renamed table — whatever the fill level of the table. -/
theorem C07_rename_loses_nothing (t : MTable) (rename : String → String) (order : List Contribution)
    (p : Contribution) (hp : p ∈ order) :
    ((t.applyRulesOrd rename order).find (rename p.1.1, p.1.2)).isSome := by
  have hmem : p.2.d ∈ dataFor (rename p.1.1, p.1.2) (renamed rename order) :=
    List.mem_map.mpr ⟨_, List.mem_filter.mpr ⟨List.mem_map.mpr ⟨p, hp, rfl⟩, beq_self_eq_true _⟩, rfl⟩
  rw [← Option.isSome_map (f := (·.d)), C07_rename_combines]
  exact combine_isSome_of_mem hmem

/-- the renamed table keeps the capacity and the attempt counter (C02: `ApplyRules` must carry it over) -/
theorem C07_rename_keeps_attempts (t : MTable) (rename : String → String) (order : List Contribution) :
    (t.applyRulesOrd rename order).failed = t.failed ∧ (t.applyRulesOrd rename order).max = t.max := by
  rw [applyRulesOrd_eq]
  exact applyAll_failed_max _ _

/-! sanity test (evaluated): two names renamed to one -/
#guard ((applyAll (MTable.new 10) [(("a", ""), ⟨false, ⟨1, 2, 3, 4, 5, 6⟩⟩), (("b", ""), ⟨false, ⟨1, 1, 1, 1, 9, 1⟩⟩)]).applyRules
          (fun _ => "z")).ms.map (fun p => (p.1, p.2.d.c, p.2.d.mn, p.2.d.mx)) == [(("z", ""), 2, 1, 9)]

/-! ## Rename rules: evaluation order, terminate_chain, each_segment, replace_all, ignore (`Model/Rules.lean`) -/

/-- **C07 (rules are applied in evaluation order).**  The chain is evaluated over the rules sorted by `eval_order`. -/
theorem C07_rules_sorted (rs : List Rule) : (sortRules rs).Pairwise (fun a b => a.order ≤ b.order) :=
  foldr_insert_sorted Rule.order insertByOrder (fun _ => rfl) (fun _ _ _ => rfl) rs

/-- **C07 (terminate_chain).**  A matching rule with `terminate_chain` ends the chain: its output is the result and no
later rule is applied, whatever the later rules are. -/
theorem C07_rules_terminate (r : Rule) (rest : List Rule) (s out : Str) (m : Bool)
    (h : applyRule r s = (.matched, out)) (ht : r.terminate = true) :
    applyChain (r :: rest) s m = (.matched, out) := by
  simp [applyChain, h, ht]

/-- a matching rule without `terminate_chain` hands its output to the next rule; the overall result is then "matched" -/
theorem C07_rules_continue (r : Rule) (rest : List Rule) (s out : Str) (m : Bool)
    (h : applyRule r s = (.matched, out)) (ht : r.terminate = false) :
    applyChain (r :: rest) s m = applyChain rest out true := by
  simp [applyChain, h, ht]

/-- a rule that does not match is skipped, also when it carries `terminate_chain` -/
theorem C07_rules_unmatched_skipped (r : Rule) (rest : List Rule) (s out : Str) (m : Bool)
    (h : applyRule r s = (.unmatched, out)) : applyChain (r :: rest) s m = applyChain rest out m := by
  simp [applyChain, h]

/-- **C07 (each_segment).**  An each-segment rule rewrites the first match in every `/`-separated segment and counts as
matched iff it matched in at least one segment — not just the last one. -/
theorem C07_each_segment (r : Rule) (s : Str) (hi : r.ignore = false) (ha : r.replaceAll = false) (he : r.eachSegment = true) :
    (applyRule r s).2 = joinSlash ((splitSlash s).map (fun seg => (replaceFirst r seg).2)) ∧
    ((applyRule r s).1 = .matched ↔ ∃ seg ∈ splitSlash s, (replaceFirst r seg).1 = .matched) := by
  simp only [applyRule, hi, ha, he, Bool.false_eq_true, if_false, if_true]
  exact ⟨by rw [List.map_map]; rfl, eachSegment_matched_iff _ _⟩

/-- **C07 (ignore rules).** -/
theorem C07_rules_ignore (r : Rule) (rest : List Rule) (s : Str) (m : Bool) (hi : r.ignore = true)
    (hm : (findMatch r.anchor r.lit s).isSome = true) : applyChain (r :: rest) s m = (.ignore, []) := by
  simp [applyChain, applyRule, hi, hm]

example : applyRules [{ order := 1, eachSegment := true, terminate := true, lit := ['a'], repl := ['x'] },
                      { order := 2, lit := ['x'], repl := ['y'] }] "a/b".toList = (.matched, "x/b".toList) := by decide +kernel
example : applyRules [{ order := 2, replaceAll := true, lit := ['a'], repl := ['a', 'a'] },
                      { order := 1, anchor := .pre, lit := ['b'], repl := [] }] "baca".toList = (.matched, "aacaa".toList) := by decide +kernel

/-- **C07 (tie: field-wise aggregation is the code's).**  `MData.agg` equals `metricData.aggregate` as translated from
metrics.go on this run, for all pairs of values (so the commutativity / associativity / permutation theorems above are about
the function the daemon runs). -/
theorem C07_aggregate_tied (d s : MData) : Gen.Decisions.aggregate d.toGen s.toGen = (d.agg s).toGen := by
  simp only [Gen.Decisions.aggregate, MData.toGen, MData.agg]
  by_cases h1 : s.mn < d.mn <;> by_cases h2 : s.mx > d.mx <;> simp [h1, h2]

/-! ## The rule chain over regular expressions (`Model/Regex.lean`)

The same statements for rules whose expressions are regular expressions with groups and whose replacements use
back-references — the chain logic does not depend on what an expression is. -/

/-- **C07 (evaluation order, regex rules).** -/
theorem C07_rx_rules_sorted (rs : List RuleX) :
    (rs.foldr insertByOrderX []).Pairwise (fun a b => a.order ≤ b.order) :=
  foldr_insert_sorted RuleX.order insertByOrderX (fun _ => rfl) (fun _ _ _ => rfl) rs

/-- **C07 (terminate_chain / continue / unmatched skipped / ignore, regex rules).** -/
theorem C07_rx_chain (r : RuleX) (rest : List RuleX) (s out : Str) (m : Bool) :
    (applyRuleX r s = (.matched, out) → r.terminate = true → applyChainX (r :: rest) s m = (.matched, out)) ∧
    (applyRuleX r s = (.matched, out) → r.terminate = false → applyChainX (r :: rest) s m = applyChainX rest out true) ∧
    (applyRuleX r s = (.unmatched, out) → applyChainX (r :: rest) s m = applyChainX rest out m) ∧
    (applyRuleX r s = (.ignore, out) → applyChainX (r :: rest) s m = (.ignore, [])) := by
  refine ⟨fun h ht => ?_, fun h ht => ?_, fun h => ?_, fun h => ?_⟩ <;> simp [applyChainX, *]

/-- **C07 (each_segment, regex rules): matched iff ANY segment matched.** -/
theorem C07_rx_each_segment (r : RuleX) (s : Str) (hi : r.ignore = false) (ha : r.replaceAll = false) (he : r.eachSegment = true) :
    (applyRuleX r s).2 = joinSlash ((splitSlash s).map (fun seg => (replaceFirstX r seg).2)) ∧
    ((applyRuleX r s).1 = .matched ↔ ∃ seg ∈ splitSlash s, (replaceFirstX r seg).1 = .matched) := by
  simp only [applyRuleX, hi, ha, he, Bool.false_eq_true, if_false, if_true]
  exact ⟨by rw [List.map_map]; rfl, eachSegment_matched_iff _ _⟩

/-- **C07 (a rule that cannot be transformed is left out, the others keep their order).** -/
theorem C07_rx_ambiguous_dropped (rs : List RuleX) (s : Str) :
    applyRulesX rs s = applyRulesX (rs.filter (fun r => !ambiguousReplacement r.repl)) s := by
  simp [applyRulesX, List.filter_filter]

/-- back-references: `\\1` becomes `${1}`, `\\\\1` makes the rule ambiguous; a worked back-reference (`(a)(b)` → `\\2\\1`) -/
example : transformReplacement 10 ['x', '\\', '1', 'y'] = ['x', '$', '{', '1', '}', 'y'] := by decide +kernel
example : ambiguousReplacement ['x', '\\', '\\', '1'] = true ∧ ambiguousReplacement ['x', '\\', '1'] = false := by decide +kernel
-- (evaluation, not proof: the kernel does not reduce `String.toNat?`, by which `extractRef` reads the group number)
#guard (applyRulesX [{ order := 1, re := .seq (.grp 1 (.chr 'a')) (.grp 2 (.chr 'b')), repl := ['\\', '2', '\\', '1'] }] ['x', 'a', 'b', 'y']).2
    == ['x', 'b', 'a', 'y']

/-- **C07 (a name no rule matches is reported unchanged; regex rules).**  If the chain reports "unmatched" the name that
comes out is the name that went in — for every rule list, every combination of flags (each_segment splits and re-joins the
name losslessly) and every name. -/
theorem C07_rx_unmatched_unchanged (rs : List RuleX) (s out : Str) (h : applyRulesX rs s = (.unmatched, out)) : out = s :=
  (applyChainX_unmatched _ s out false h).2

/-- **C07 (a match lies inside the name).**  The leftmost match the model finds starts at or after the position the search
started from, ends no earlier than it starts and no later than the name does — so cutting the name into "before, match,
after" (`replaceFirst`, `ReplaceAllString`) is well defined. -/
theorem C07_rx_match_within_input (re : Re) (inp : Array Char) (from_ s e : Nat) (c : Caps)
    (h : re.find inp from_ = some (s, e, c)) : from_ ≤ s ∧ s ≤ e ∧ e ≤ inp.size :=
  Re.find_bounds re inp from_ s e c h

/-! ### Empty matches -/

/-- **C07 (an empty leftmost match is a match).**  A rule (without `replace_all`, not an ignore rule) whose expression matches the
empty string at some position — an anchor alone, an optional group — is *applied*: `replaceFirst` reports a match (so
`terminate_chain` is honoured) and inserts the replacement there. -/
theorem C07_rx_empty_match_is_a_match (r : RuleX) (s : Str) (a : Nat) (c : Caps)
    (h : r.re.find s.toArray 0 = some (a, a, c)) :
    replaceFirstX r s = (.matched, s.take a ++ reReplaceAll r.re (s.toArray.extract a a) r.tmpl ++ s.drop a) := by
  simp [replaceFirstX, h]

/-- … whereas an ignore rule needs a non-empty match (`"" != FindString(s)`) -/
theorem C07_rx_ignore_needs_nonempty_match (r : RuleX) (s : Str) (a : Nat) (c : Caps) (hi : r.ignore = true)
    (h : r.re.find s.toArray 0 = some (a, a, c)) : applyRuleX r s = (.unmatched, s) := by
  simp [applyRuleX, hi, h]

/-- the contributions a transaction makes: every metric unscoped, and the scoped ones once more under the transaction's name -/
def txnContribs (txnName : String) (ms : List TxnMetric) : List Contribution :=
  ms.flatMap (fun x => ((x.name, ""), { forced := x.forced, d := x.d }) ::
    (if x.isScoped then [((x.name, txnName), ({ forced := x.forced, d := x.d } : Metric))] else []))

/-- **C07 (a scoped contribution is also recorded unscoped).**  What `aggregateMetrics` does with the metrics of a
transaction (while there is room: refusals at the capacity limit aside) is exactly: admit every metric as an unscoped
contribution and every scoped one once more under the transaction's name, in order — so `C07_table_value`,
`C07_table_perm`, `C07_combine_regroup` apply to the tables transactions build, for every transaction name and metric
list. -/
theorem C07_scoped_also_unscoped (txnName : String) (ms : List TxnMetric) (t : MTable)
    (hroom : t.count + 2 * ms.length ≤ t.max) :
    ms.foldl (fun (m : MTable) (x : TxnMetric) =>
      let m := m.addRaw (x.name, "") x.d x.forced
      if x.isScoped then m.addRaw (x.name, txnName) x.d x.forced else m) t = applyAll t (txnContribs txnName ms) := by
  have hlen : (txnContribs txnName ms).length ≤ 2 * ms.length := by
    clear hroom
    induction ms with
    | nil => exact Nat.le_refl _
    | cons x xs ih =>
      rw [txnContribs, List.flatMap_cons, List.length_append, ← txnContribs, List.length_cons]
      split <;> simp only [List.length_cons, List.length_nil] <;> omega
  rw [← C07_below_capacity t _ (by omega), txnContribs, List.foldl_flatMap]
  congr 1
  funext m x
  split <;> rfl

/-- **C07 (tie: the shape of metric_rules.go).**  `MetricRule.Apply` tests ignore, then replace_all, then each_segment
(else plain replace-first) — the order of `applyRule` / `applyRuleX`; `MetricRules.Apply` returns on ignore, remembers a
match and breaks on terminate_chain; rules are sorted by `eval_order`, compiled as `(?i)` + expression, and back-references
are transformed with the two expressions the model transcribes (`\\\\N` ambiguous, `\\N` → `${N}`). -/
theorem C07_rules_source_tied :
    Gen.Rules.flagOrder = ["r.Ignore", "r.ReplaceAll", "r.EachSegment"] ∧
    Gen.Rules.chain = ["RuleResultIgnore==res=>return", "RuleResultMatched==res=>break", "rule.Terminate=>break", "matched=>return"] ∧
    Gen.Rules.compileArg = "\"(?i)\"+r.RawExpr" ∧
    Gen.Rules.less = "rules[i].Order<rules[j].Order" ∧
    Gen.Rules.ambiguous = "regexp.MustCompile(`\\\\\\\\([0-9]+)`)" ∧
    Gen.Rules.backref = "regexp.MustCompile(`\\\\([0-9]+)`)" ∧
    Gen.Rules.backrefReplacement = "\"$${${1}}\"" := ⟨rfl, rfl, rfl, rfl, rfl, rfl, rfl⟩

/-! ### Carry-over and rename rules (processor level) -/

/-- **C07 (a carried-over metric table goes back un-renamed).**  When the delivery of a metric payload fails, what is merged
into the next harvest is the table the rules were applied TO, not the table they produced: the rules meet every
contribution exactly once, at the harvest that finally sends it, so the reported name does not depend on carry-overs
(the defect repaired by `fix:` a3f8a47 was exactly the other choice). -/
theorem C07_handback_is_unrenamed (h : HarvestM) (sent orig : MTable) (touched : Bool) :
    (failedHarvest h (.metrics sent touched orig) .metrics).metrics =
      MTable.mergeFailed Gen.Limits.FailedMetricAttemptsLimit h.metrics orig := rfl

/-- the payload of a harvest is the rules' image of the harvest's own table, and that table travels with it -/
theorem C07_payload_carries_its_source (s : PState) (runId : String) (run : RunM) (app : AppM) (cfg : RunCfg) (a : HArgs) :
    ∀ r ∈ (harvestAllPart s runId run app cfg a).2, r.cat = Cat.metrics →
      r.payload = .metrics (applyRulesM (createFinalMetrics run.h).metrics a.rules) (createFinalMetrics run.h).touched
                           (createFinalMetrics run.h).metrics := by
  intro r hr hc
  obtain ⟨-, hmem, -⟩ := harvestAllPart_mem s runId run app cfg a r hr
  obtain ⟨-, -, -, -, -, hmetrics⟩ := allPayloads_cat hmem
  exact hmetrics hc


/-! ## Ties to the current source: the functions transcribed by the model have not changed since they were reviewed (`Props/Reviewed.lean`) -/

/-- **C07 (tie).**  `applyRules`: rules are applied to every name; the renamed table remembers its source. -/
theorem C07_apply_rules_source_tied : Gen.Skeleton.applyRules = Reviewed.applyRules := rfl

/-- **C07 (tie).**  `metricsFailedHarvest`: the un-renamed table is handed back. -/
theorem C07_failed_harvest_source_tied : Gen.Skeleton.metricsFailedHarvest = Reviewed.metricsFailedHarvest := rfl
