import NrDaemon.Props.Reviewed
import NrDaemon.Gen.Skeleton
import NrDaemon.Model.SpanQueue
import NrDaemon.Gen.SpanQueue
/-!
  C16 — span queue applies back-pressure without blocking.

  The theorems are about `SQ.step`, the small-step machine of producer, worker and owner; a list of events is an
  arbitrary interleaving, batch sizes are arbitrary naturals (0, = Q, > Q included), Q is arbitrary (0 included).
-/

def inHands (w : Worker) : Nat :=
  match w with
  | .inSend c => c
  | .creditBlocked c _ _ => c
  | _ => 0

def handsCount (w : Worker) : Nat :=
  match w with
  | .inSend _ => 1
  | .creditBlocked _ _ _ => 1
  | _ => 0

structure SQ.Inv (s : SQ) : Prop where
  /-- free capacity + queued + in the sender's hands + sent-but-uncredited never exceeds Q: the counter cannot wrap
      and the spans waiting in the queue never exceed Q -/
  cap : s.remaining + sum s.chan + inHands s.worker + sum s.credits ≤ s.q
  /-- … and is exactly Q until the queue is closed -/
  capEq : s.closed = false → s.remaining + sum s.chan + inHands s.worker + sum s.credits = s.q
  slots : s.chan.length ≤ s.q
  /-- batches outstanding (queued, in hands, credited) fit the credit channel: the worker's credit send never blocks -/
  credit : s.credits.length + s.chan.length + handsCount s.worker ≤ s.q + 1
  closedEmpty : s.closed = true → s.chan = []
  closedInit : s.closed = true → s.shutdownInitiated = true
  notBlocked : ∀ c a b, s.worker ≠ .creditBlocked c a b

/-- ledger: every span handed over is in exactly one place; `pending` are those `QueueBatch` has counted as handed
over and not yet placed -/
def SQ.Ledger (pending : Nat := 0) (s : SQ) : Prop :=
  s.handed = s.toSender + s.dumped + s.refused + s.drained + sum s.chan + pending

theorem sum_eq (l : List Nat) : sum l = l.sum := List.sum_eq_foldl_nat.symm

@[simp] theorem sum_nil : sum [] = 0 := rfl

theorem sum_cons (a : Nat) (l : List Nat) : sum (a :: l) = a + sum l := by simp only [sum_eq, List.sum_cons]

theorem sum_snoc (l : List Nat) (a : Nat) : sum (l ++ [a]) = sum l + a := by
  simp only [sum_eq, List.sum_append, List.sum_singleton]

namespace SQ
variable {s : SQ} {n k : Nat}

/-! ## `QueueBatch` in two halves

Unless it refuses the batch, `queueBatch` makes room for it (`reclaim`) and then offers it to the queue (`offer`).
Every fact about it is proved half by half, so that no proof has the whole nest of `if`s before it: splitting that
nest is what is slow to check. -/

/-- `getRemainingQueueCapacity` (the credits go back into the counter), then `emptyQueue` if the batch does not fit -/
def reclaim (s : SQ) (n : Nat) : SQ :=
  let s := { s with remaining := s.remaining + sum s.credits, credits := [] }
  if s.remaining < n then
    { s with dumped := s.dumped + sum s.chan, remaining := s.remaining + sum s.chan, chan := [] }
  else s

/-- the second capacity test, and the `select` with its `default` -/
def offer (s : SQ) (n : Nat) : SQ :=
  if s.remaining < n then { s with dumped := s.dumped + n }
  else if s.chan.length < s.q then { s with chan := s.chan ++ [n], remaining := s.remaining - n }
  else if s.q = 0 ∧ s.worker = .ready then
    { s with worker := .inSend n, toSender := s.toSender + n, remaining := s.remaining - n }
  else { s with dumped := s.dumped + n }

theorem queueBatch_eq (s : SQ) (n : Nat) : s.queueBatch n =
    let t := { s with handed := s.handed + n }
    if s.shutdownInitiated then
      let t := if s.shutdownComplete then t else t.closeMessages
      { t with refused := t.refused + n }
    else (t.reclaim n).offer n := by
  unfold queueBatch reclaim offer; rfl

theorem queueBatch_open (hi : s.shutdownInitiated = false) :
    s.queueBatch n = (reclaim { s with handed := s.handed + n } n).offer n :=
  (queueBatch_eq s n).trans (if_neg (Bool.eq_false_iff.1 hi))

theorem reclaim_short (h : s.remaining + sum s.credits < n) :
    (s.reclaim n).dumped = s.dumped + sum s.chan ∧ (s.reclaim n).chan = [] := by
  simp only [reclaim, h, ↓reduceIte, and_self]

theorem offer_spec (s : SQ) (n : Nat) :
    s.dumped ≤ (s.offer n).dumped ∧ ((s.offer n).chan = s.chan ∨ (s.offer n).chan = s.chan ++ [n]) := by
  unfold offer
  split; exact ⟨Nat.le_add_right _ _, .inl rfl⟩
  split; exact ⟨Nat.le_refl _, .inr rfl⟩
  split; exact ⟨Nat.le_refl _, .inl rfl⟩
  exact ⟨Nat.le_add_right _ _, .inl rfl⟩

/-! ### the capacity invariant -/

theorem handsCount_le (w : Worker) : handsCount w ≤ 1 := by cases w <;> simp [handsCount]

/-- Spans only move between the counter, the queue, the sender's hands and the credits: a state in which the four add up
to what they did (`hload`) inherits `cap` and `capEq`. -/
theorem Inv.transfer (h : s.Inv) {t : SQ} (hq : t.q = s.q) (hcl : t.closed = s.closed)
    (hload : t.remaining + sum t.chan + inHands t.worker + sum t.credits
      = s.remaining + sum s.chan + inHands s.worker + sum s.credits)
    (hslots : t.chan.length ≤ t.q) (hcredit : t.credits.length + t.chan.length + handsCount t.worker ≤ t.q + 1)
    (hempty : t.closed = true → t.chan = []) (hinit : t.closed = true → t.shutdownInitiated = true)
    (hnb : ∀ c a b, t.worker ≠ .creditBlocked c a b) : t.Inv :=
  ⟨hload ▸ hq ▸ h.cap, fun hc => hload ▸ hq ▸ h.capEq (hcl ▸ hc), hslots, hcredit, hempty, hinit, hnb⟩

theorem Inv.ghost (h : s.Inv) (a b c d e : Nat) (f : Bool) :
    Inv { s with handed := a, toSender := b, dumped := c, refused := d, drained := e, shutdownComplete := f } :=
  ⟨h.1, h.2, h.3, h.4, h.5, h.6, h.7⟩

theorem closeMessages_inv (h : s.Inv) (hi : s.shutdownInitiated = true) : s.closeMessages.Inv := by
  unfold closeMessages
  split
  · exact h
  · refine ⟨?_, nofun, Nat.zero_le _, ?_, fun _ => rfl, fun _ => hi, h.notBlocked⟩
    · have := h.cap; simp only [sum_nil]; omega
    · have := h.credit; simp only [List.length_nil]; omega

theorem reclaim_inv (n : Nat) (h : s.Inv) (hi : s.shutdownInitiated = false) :
    (s.reclaim n).Inv ∧ (s.reclaim n).closed = false ∧ (s.reclaim n).credits = [] := by
  have ho : s.closed = false := Bool.eq_false_iff.2 fun hc => nomatch hi.symm.trans (h.closedInit hc)
  have := h.credit
  unfold reclaim
  dsimp only
  split
  · refine ⟨h.transfer rfl rfl ?_ (Nat.zero_le _) ?_ (fun _ => rfl) h.closedInit h.notBlocked, ho, rfl⟩ <;>
      simp only [sum_nil, List.length_nil] <;> omega
  · refine ⟨h.transfer rfl rfl ?_ h.slots ?_ h.closedEmpty h.closedInit h.notBlocked, ho, rfl⟩ <;>
      simp only [sum_nil, List.length_nil] <;> omega

theorem offer_inv (h : s.Inv) (ho : s.closed = false) (hc : s.credits = []) : (s.offer n).Inv := by
  have := h.slots
  unfold offer
  split
  · exact h.ghost ..
  split
  · -- a free slot; and the credits being drained, the credit channel has room for one more batch
    have := handsCount_le s.worker
    refine h.transfer rfl rfl ?_ ?_ ?_ (fun hcl => nomatch ho.symm.trans hcl) h.closedInit h.notBlocked <;>
      simp only [hc, sum_snoc, List.length_append, List.length_cons, List.length_nil] <;> omega
  split
  · next hw =>
    refine h.transfer rfl rfl ?_ h.slots ?_ h.closedEmpty h.closedInit nofun <;>
      simp only [hc, hw.2, inHands, handsCount, List.length_nil] <;> omega
  · exact h.ghost ..

theorem queueBatch_inv (h : s.Inv) : (s.queueBatch n).Inv := by
  have ht : Inv { s with handed := s.handed + n } := h.ghost ..
  rw [queueBatch_eq]
  split
  · next hi =>
    refine Inv.ghost ?_ ..
    split
    · exact ht
    · exact closeMessages_inv ht hi
  · next hi =>
    have ⟨h1, h2, h3⟩ := reclaim_inv n ht (Bool.eq_false_iff.2 hi)
    exact offer_inv h1 h2 h3

theorem idle_spec {w : Worker} (h : handsCount w = 0) : inHands w = 0 ∧ ∀ c a b, w ≠ .creditBlocked c a b := by
  cases w <;> first | exact ⟨rfl, nofun⟩ | cases h

/-- `si`, `sc`: the two shutdown flags afterwards (`shutdownInitiated` is never cleared) -/
theorem Inv.idle (h : s.Inv) (hs : handsCount s.worker = 0) {w : Worker} (hw : handsCount w = 0) {si : Bool}
    (hsi : s.shutdownInitiated = true → si = true) (sc : Bool) :
    Inv { s with worker := w, shutdownInitiated := si, shutdownComplete := sc } :=
  h.transfer rfl rfl (by simp only [(idle_spec hs).1, (idle_spec hw).1]) h.slots (by simp only [hw]; exact hs ▸ h.credit)
    h.closedEmpty (fun hc => hsi (h.closedInit hc)) (idle_spec hw).2

theorem Inv.exit (h : s.Inv) (hs : handsCount s.worker = 0) : s.workerExit.Inv := h.idle hs rfl (fun _ => rfl) _

theorem Inv.credited {c : Nat} (h : s.Inv) (hs : s.worker = .inSend c) {w : Worker} (hw : handsCount w = 0) :
    Inv { s with credits := s.credits ++ [c], worker := w } := by
  have ⟨hw1, hw2⟩ := idle_spec hw
  have h3 := h.credit
  rw [hs] at h3
  refine h.transfer rfl rfl ?_ h.slots ?_ h.closedEmpty h.closedInit hw2
  · simp only [hs, hw1, sum_snoc]; simp only [inHands]; omega
  · simp only [hw, List.length_append, List.length_cons, List.length_nil]; simp only [handsCount] at h3; omega

theorem Inv.received {c : Nat} {rest : List Nat} (h : s.Inv) (hs : s.worker = .ready) (hch : s.chan = c :: rest)
    (ts : Nat) : Inv { s with chan := rest, worker := .inSend c, toSender := ts } := by
  have h3 := h.credit; have h4 := h.slots
  rw [hs, hch] at h3
  rw [hch] at h4
  simp only [handsCount, List.length_cons] at h3 h4
  refine h.transfer rfl rfl ?_ ?_ ?_ (fun hc => nomatch hch.symm.trans (h.closedEmpty hc)) h.closedInit nofun <;>
    simp only [hs, hch, inHands, handsCount, sum_cons] <;> omega

theorem step_inv (s : SQ) (e : SQEvent) (h : s.Inv) : (s.step e).Inv := by
  cases e with
  | batch n => exact queueBatch_inv h
  | connectOk => exact iteInduction (fun hw => h.idle (hw ▸ rfl) rfl id _) fun _ => h
  | connectFail f => exact iteInduction (fun hw => h.exit (hw.1 ▸ rfl)) fun _ => h
  | take =>
    refine iteInduction (fun hw => ?_) fun _ => h
    split
    · next c rest hch => exact h.received hw hch _
    · exact iteInduction (fun _ => h.exit (hw ▸ rfl)) fun _ => h
  | sendDone ok fatal =>
    simp only [step]
    split
    · next c hw =>
      -- the credit channel has room: `credit` counts the batch in the worker's hands
      have : s.credits.length < s.q + 1 := by have := h.credit; rw [hw] at this; simp only [handsCount] at this; omega
      rw [if_pos this]
      -- `afterSend`: back to the select, out of the loop for good, or to a new connection
      exact iteInduction (fun _ => h.credited hw rfl) fun _ =>
        iteInduction (fun _ => (h.credited hw (w := .exited) rfl).exit rfl) fun _ => h.credited hw rfl
    · exact h
  | creditFreed =>
    simp only [step]
    split
    · next c ok fatal hw => exact absurd hw (h.notBlocked c ok fatal)
    · exact h
  | respErr f =>
    exact iteInduction (fun hw => iteInduction (fun _ => h.exit (hw ▸ rfl)) fun _ => h.idle (hw ▸ rfl) rfl id _) fun _ => h
  | seeShutdown => exact iteInduction (fun hw => h.exit (hw.1 ▸ rfl)) fun _ => h
  | initShutdown => exact { h with closedInit := fun _ => rfl }
  | closeMessages => exact iteInduction (closeMessages_inv h) fun _ => h

/-! ### the ledger -/

theorem closeMessages_ledger (h : s.Ledger k) : s.closeMessages.Ledger k := by
  refine iteInduction (fun _ => h) fun _ => ?_
  unfold Ledger at *; simp only [sum_nil]; omega

theorem reclaim_ledger (h : s.Ledger k) : (s.reclaim n).Ledger k := by
  refine iteInduction (fun _ => ?_) fun _ => h
  unfold Ledger at *; simp only [sum_nil]; omega

theorem offer_ledger (h : s.Ledger n) : (s.offer n).Ledger := by
  have hd : Ledger 0 { s with dumped := s.dumped + n } := by unfold Ledger at *; simp only; omega
  -- discarded, queued, handed to a waiting worker, or discarded
  refine iteInduction (fun _ => hd) fun _ => iteInduction (fun _ => ?_) fun _ => iteInduction (fun _ => ?_) fun _ => hd <;>
    unfold Ledger at h ⊢ <;> simp only [sum_snoc] <;> omega

theorem queueBatch_ledger (h : s.Ledger) : (s.queueBatch n).Ledger := by
  have ht : Ledger n { s with handed := s.handed + n } := by unfold Ledger at *; simp only; omega
  have refuse (t : SQ) (ht : t.Ledger n) : Ledger 0 { t with refused := t.refused + n } := by
    unfold Ledger at *; simp only; omega
  rw [queueBatch_eq]
  exact iteInduction (fun _ => refuse _ (iteInduction (fun _ => ht) fun _ => closeMessages_ledger ht)) fun _ =>
    offer_ledger (reclaim_ledger ht)

theorem afterSend_ledger (t : SQ) (ok fatal : Bool) (h : t.Ledger) : (t.afterSend ok fatal).Ledger := by
  cases ok <;> cases fatal <;> exact h

theorem step_ledger (s : SQ) (e : SQEvent) (h : s.Ledger) : (s.step e).Ledger := by
  cases e with
  | batch n => exact queueBatch_ledger h
  | take =>
    refine iteInduction (fun _ => ?_) fun _ => h
    split
    · next c rest hch => unfold Ledger at *; rw [hch] at h; simp only [sum_cons] at *; omega
    · exact iteInduction (fun _ => h) fun _ => h
  | closeMessages => exact iteInduction (fun _ => closeMessages_ledger h) fun _ => h
  | sendDone ok fatal | creditFreed =>
    simp only [step]; split; exact iteInduction (fun _ => afterSend_ledger _ _ _ h) fun _ => h; exact h
  | respErr f => exact iteInduction (fun _ => iteInduction (fun _ => h) fun _ => h) fun _ => h
  | initShutdown => exact h
  | _ => exact iteInduction (fun _ => h) fun _ => h

theorem step_q (s : SQ) (e : SQEvent) : (s.step e).q = s.q := by
  -- no branch of any step assigns `q`: every leaf is `s` or a record update of other fields
  cases e <;> simp only [step] <;> (repeat' split) <;>
    simp only [queueBatch, closeMessages, afterSend, workerExit, apply_ite SQ.q, ite_self]

theorem run_inv (s : SQ) (es : List SQEvent) (h : s.Inv) : (s.run es).Inv :=
  es.foldlRecOn _ h fun s hs e _ => step_inv s e hs

theorem run_q (s : SQ) (es : List SQEvent) : (s.run es).q = s.q :=
  es.foldlRecOn (motive := (·.q = s.q)) _ rfl fun t ht e _ => (step_q t e).trans ht

theorem init_inv (q : Nat) : (init q).Inv := by constructor <;> simp [init, inHands, handsCount]

end SQ

/-! ## The property -/

/-- **C16 (bounded queue, counter never wraps; all sizes, all interleavings).**  In every state reachable from a new
queue of any size Q by any interleaving of `QueueBatch` calls of any sizes with the worker's connects, receives, sends
(succeeding or failing), asynchronous errors, restarts and the two halves of `Shutdown`: the spans waiting in the queue
never exceed Q, the batches waiting never exceed the Q slots of the channel, and the producer's counter is at most Q
(so the unsigned subtraction in `QueueBatch` never wraps). -/
theorem C16_queue_bounded (q : Nat) (es : List SQEvent) :
    let s := (SQ.init q).run es
    sum s.chan ≤ q ∧ s.chan.length ≤ q ∧ s.remaining ≤ q ∧
      s.remaining + sum s.chan + inHands s.worker + sum s.credits ≤ q := by
  have h := SQ.run_inv _ es (SQ.init_inv q)
  have hq : ((SQ.init q).run es).q = q := SQ.run_q ..
  have hc := h.cap
  have hs := h.slots
  rw [hq] at hc hs
  exact ⟨by omega, hs, by omega, hc⟩

/-- **C16 (every span accounted for exactly once).**  In every reachable state
`handed = passed to the sender + discarded with the queue + refused after shutdown began + still queued when the queue
was closed + still waiting in the queue`, the five places being disjoint counters. -/
theorem C16_ledger (q : Nat) (es : List SQEvent) :
    let s := (SQ.init q).run es
    s.handed = s.toSender + s.dumped + s.refused + s.drained + sum s.chan :=
  es.foldlRecOn (motive := SQ.Ledger 0) _ rfl fun s hs e _ => SQ.step_ledger s e hs

/-- **C16 (the worker never blocks on its credit).**  No reachable state has the worker blocked on `messagesSent`. -/
theorem C16_worker_never_credit_blocked (q : Nat) (es : List SQEvent) (c : Nat) (a b : Bool) :
    ((SQ.init q).run es).worker ≠ .creditBlocked c a b :=
  (SQ.run_inv _ es (SQ.init_inv q)).notBlocked c a b

/-- **C16 (when a batch does not fit the whole queue is discarded and counted).** -/
theorem C16_dump_whole_queue (s : SQ) (n : Nat) (hi : s.shutdownInitiated = false)
    (hfit : s.remaining + sum s.credits < n) :
    let s' := s.queueBatch n
    s'.dumped ≥ s.dumped + sum s.chan ∧ (s'.chan = [] ∨ s'.chan = [n]) := by
  rw [SQ.queueBatch_open hi]
  obtain ⟨hd, hc⟩ := SQ.reclaim_short (s := { s with handed := s.handed + n }) hfit
  obtain ⟨h1, h2⟩ := SQ.offer_spec (SQ.reclaim { s with handed := s.handed + n } n) n
  rw [hd] at h1; rw [hc] at h2
  exact ⟨h1, h2⟩

/-- **C16 (after shutdown has begun nothing more is queued).** -/
theorem C16_refused_after_shutdown (s : SQ) (n : Nat) (hi : s.shutdownInitiated = true) :
    let s' := s.queueBatch n
    s'.refused = s.refused + n ∧ s'.toSender = s.toSender ∧ s'.dumped = s.dumped ∧ s'.chan.length ≤ s.chan.length := by
  rw [SQ.queueBatch_eq]
  simp only [hi, ↓reduceIte]
  -- only `refused` moves; `closeMessages`, where it still has to run, leaves the queue as it is or empties it
  split
  · exact ⟨rfl, rfl, rfl, Nat.le_refl _⟩
  · unfold SQ.closeMessages
    split
    · exact ⟨rfl, rfl, rfl, Nat.le_refl _⟩
    · exact ⟨rfl, rfl, rfl, Nat.zero_le _⟩

theorem length_le_sum (l : List Nat) (h : ∀ c ∈ l, 1 ≤ c) : l.length ≤ sum l := by
  induction l with
  | nil => exact Nat.le_refl 0
  | cons a l ih =>
    have := ih fun c hc => h c (List.mem_cons_of_mem a hc)
    have := h a List.mem_cons_self
    rw [sum_cons, List.length_cons]; omega

/-- **C16 (a batch of real spans that fits always finds a slot).**  If every queued batch carries at least one span —
the agent never sends an empty one — the non-blocking send's `default` branch is dead: slots run out only for
zero-count batches, which use no capacity. -/
theorem C16_slot_available (s : SQ) (n : Nat) (h : s.Inv) (hpos : ∀ c ∈ s.chan, 1 ≤ c) (hn : 1 ≤ n)
    (hfit : n ≤ s.remaining) : s.chan.length < s.q := by
  have := length_le_sum s.chan hpos
  have := h.cap
  omega

/-- **C16 (shutdown at any moment ends the worker).**  Once both halves of `Shutdown` have run — in any reachable
state, whatever the sender is doing — the queue is closed and empty, and a worker that is (or comes back) in its select
leaves the loop on its next step; `Shutdown` itself is two non-blocking steps around a wait bounded by its timer. -/
theorem C16_shutdown_ends_worker (s : SQ) (h : s.Inv) :
    let s' := (s.step .initShutdown).step .closeMessages
    s'.closed = true ∧ s'.chan = [] ∧ s'.shutdownInitiated = true ∧
      (∀ t : SQ, t.closed = true → t.chan = [] → t.worker = .ready → t.settle.worker = .exited) := by
  have hs : (s.step .initShutdown).step .closeMessages = SQ.closeMessages { s with shutdownInitiated := true } := rfl
  have ht (t : SQ) (hc : t.closed = true) (hch : t.chan = []) (hw : t.worker = .ready) : t.settle.worker = .exited := by
    simp only [SQ.settle, SQ.step, SQ.workerExit, hw, hc, hch, ↓reduceIte, Bool.or_true]
  rw [hs]
  unfold SQ.closeMessages
  split
  · next hc => exact ⟨hc, h.closedEmpty hc, rfl, ht⟩
  · exact ⟨rfl, rfl, rfl, ht⟩

/-! ## The regenerated tie: what the current source's producer can block on -/

open Gen.SpanQueue in
/-- a producer-side channel operation that cannot block: inside a `select` with a `default`, a `close`, or the drain of
the queue after `close` in `closeMessages` (a closed channel never blocks a receiver) -/
def opCannotBlock (ops : List Gen.SpanQueue.ChanOp) (o : Gen.SpanQueue.ChanOp) : Bool :=
  o.nonBlocking ||
  (o.kind == "range" && o.fn == "closeMessages" && o.chan == "to.messages" &&
    ops.any (fun c => c.fn == "closeMessages" && c.kind == "close" && c.chan == "to.messages"))

/-- **C16 (regenerated from the current trace_observer.go): the producer cannot block on the queue.**  Of all channel
operations reachable from `QueueBatch`, the only ones that can block are the reports to the supportability goroutine
(`to.supportability.increment`), which serves them unconditionally in its loop; every operation on `messages`,
`messagesSent` and the shutdown channels is non-blocking.  The credit channel is made with room for Q+1 batches (the
model's `creditBlocked` bound), the queue with Q, and the worker's receive sees a closed queue. -/
theorem C16_producer_ops_nonblocking :
    (Gen.SpanQueue.producerOps.all (fun o => opCannotBlock Gen.SpanQueue.producerOps o || o.chan == "to.supportability.increment")) = true ∧
    Gen.SpanQueue.producerOps.any (fun o => o.fn == "QueueBatch" && o.kind == "send" && o.chan == "to.messages") = true ∧
    Gen.SpanQueue.chanCaps = [("messages", "cfg.QueueSize"), ("messagesSent", "cfg.QueueSize+1")] ∧
    Gen.SpanQueue.workerChecksClosed = true :=
  ⟨by decide +kernel, by decide +kernel, rfl, rfl⟩

/-! ## Sanity: the hypotheses are met by non-trivial states, and the edge sizes behave as stated -/

example : ((SQ.init 10).run [.connectOk, .batch 8, .take, .batch 5]).remaining = 2 := by decide +kernel
example : ((SQ.init 10).run [.connectOk, .batch 8, .take, .batch 5]).dumped = 5 := by decide +kernel
example : ((SQ.init 3).run [.batch 0, .batch 0, .batch 0, .batch 0]).chan.length = 3 := by decide +kernel
example : ((SQ.init 0).run [.batch 1, .batch 0]).dumped = 1 := by decide +kernel
example : ((SQ.init 4).run [.batch 2, .batch 2, .batch 1]).chan = [1] := by decide +kernel
example : ((SQ.init 4).run [.batch 2, .batch 2, .batch 1]).dumped = 4 := by decide +kernel
example : ((SQ.init 4).run [.connectOk, .batch 2, .take, .initShutdown, .closeMessages, .sendDone true false, .take]).worker = .exited := by decide +kernel

/-! ## The queue size is the agent's to choose, the allocation is not -/

/-- **C16 (all queue sizes: what is allocated is bounded).**  Whatever size an agent announces (a `uint64` taken from the
App message), the queue `newTraceObserverWithWorker` makes has at most `maxQueueSize` slots — the bound regenerated from
trace_observer.go, which must exist — so no announced size can make the worker crash (`makechan: size out of range`) or
exhaust its memory when the run's queue is created.  All theorems above hold for the effective size, as for any size. -/
theorem C16_queue_allocation_bounded (configured : Nat) :
    Gen.SpanQueue.maxQueueSize ≠ 0 ∧ effectiveQueueSize configured ≤ Gen.SpanQueue.maxQueueSize ∧
    (configured ≤ Gen.SpanQueue.maxQueueSize → effectiveQueueSize configured = configured) := by
  have h0 : Gen.SpanQueue.maxQueueSize ≠ 0 := by decide
  unfold effectiveQueueSize
  refine ⟨h0, ?_, fun _ => ?_⟩ <;> split <;> omega

/-- `QueueBatch` as last reviewed: refused after shutdown; dump when the batch does not fit; discard when it still does not fit; a
non-blocking send, the counter lowered only when the batch went in -/
def reviewedQueueBatch : List String := [
  "if to.isShutdownInitiated() {",
  "if !to.isShutdownComplete() {",
  "to.closeMessages(…)",
  "}",
  "return",
  "}",
  "if to.getRemainingQueueCapacity()<count {",
  "to.emptyQueue(…)",
  "}",
  "if to.messagesRemainingCapacity<count {",
  "to.discardBatch(…)",
  "return",
  "}",
  "b := &<*ast.CompositeLit>",
  "select {",
  "case to.messages <- b:",
  "to.messagesRemainingCapacity -= count",
  "default:",
  "to.discardBatch(…)",
  "}"
]

/-- **C16 (tie: the producer the machine transcribes is the code's).** -/
theorem C16_queuebatch_source_tied : Gen.Skeleton.queueBatch = reviewedQueueBatch := rfl


/-! ## Ties to the current source: the functions transcribed by the model have not changed since they were reviewed (`Props/Reviewed.lean`) -/

/-- **C16 (tie).**  `observerShutdown`: initShutdown, bounded wait, closeMessages. -/
theorem C16_shutdown_source_tied : Gen.Skeleton.observerShutdown = Reviewed.observerShutdown := rfl

/-- **C16 (tie).**  `doStreaming`: the worker's select: queue (closed = leave), response error, shutdown signal. -/
theorem C16_do_streaming_source_tied : Gen.Skeleton.doStreaming = Reviewed.doStreaming := rfl
