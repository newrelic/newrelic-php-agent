import NrDaemon.Props.Reviewed
import NrDaemon.Gen.Skeleton
import NrDaemon.Lemmas.Reservoir
import NrDaemon.Lemmas.SlowSQL
import NrDaemon.Gen.Limits
import NrDaemon.Props.Tied
/-!
  C06 — when over capacity, the highest-priority items are the ones kept.

  The histories the theorems quantify over (`ResOp` / `runRes`, `runErr`, `runTrace`) are defined here; the top-K
  lemmas are in `Lemmas/TopK.lean`, `Lemmas/Reservoir.lean`, `Lemmas/SlowSQL.lean`.  The reservoir theorems quantify over every
  operation history: offers, synthetics offers and merges of carried-over reservoirs, in any order, for any
  capacity (including 0 and 1).
-/
open GoHeap

/-- the operations a harvest period applies to one event reservoir -/
inductive ResOp where
  | add (e : Ev)                 -- AddEvent / AddTxnEvent / AddEventFromData
  | addSyn (e : Ev)              -- AddSyntheticsEvent: priority boosted by 2 (= 2·10⁶ in fixed point)
  | merge (carried : Array Ev)   -- Merge / MergeFailed of a carried-over reservoir's events

def synBoost (e : Ev) : Ev := { e with prio := 2000000 + e.prio }

def ResOp.apply (cap : Nat) (a : Array Ev) : ResOp → Array Ev
  | .add e => resAddArr cap a e
  | .addSyn e => resAddArr cap a (synBoost e)
  | .merge c => c.toList.foldl (resAddArr cap) a

/-- everything offered in the period, newest first -/
def ResOp.offered : ResOp → List Ev
  | .add e => [e]
  | .addSyn e => [synBoost e]
  | .merge c => c.toList.reverse

def runRes (cap : Nat) (ops : List ResOp) : Array Ev := ops.foldl (ResOp.apply cap) #[]
def offeredBy (ops : List ResOp) : List Ev := ops.foldl (fun acc o => o.offered ++ acc) []

theorem runRes_inv_top (cap : Nat) (ops : List ResOp) (a : Array Ev) (off : List Ev)
    (hi : ResInv cap a) (h : TopInv cap a off) :
    ResInv cap (ops.foldl (ResOp.apply cap) a) ∧
    TopInv cap (ops.foldl (ResOp.apply cap) a) (ops.foldl (fun acc o => o.offered ++ acc) off) := by
  induction ops generalizing a off with
  | nil => exact ⟨hi, h⟩
  | cons o ops ih =>
    simp only [List.foldl_cons]
    cases o with
    | add e | addSyn e => exact ih _ _ (resAddArr_inv cap a _ hi) ((resAddArr_offer cap a _).top hi h)
    | merge c =>
      have := resFold_inv_top cap c.toList a off hi h
      exact ih _ _ this.1 this.2

/-- **C06 (events).**  After any history of offers, synthetics offers and merges into a reservoir of capacity `K`,
the retained events are a top-`K` selection of everything offered in the period: retained ⊎ dropped = offered,
no dropped event has a higher priority than a retained one, and exactly `min(|offered|, K)` are retained. -/
theorem C06_reservoir_topk (K : Nat) (ops : List ResOp) :
    ∃ dropped, ((runRes K ops).toList ++ dropped).Perm (offeredBy ops) ∧
      (∀ d ∈ dropped, ∀ k ∈ (runRes K ops).toList, d.prio ≤ k.prio) ∧
      (runRes K ops).size = min (offeredBy ops).length K := by
  obtain ⟨hi, ht⟩ := runRes_inv_top K ops #[] [] (resInv_empty K) (topInv_empty K)
  exact ht.topk hi.1

/-- **C06 (zero capacity keeps nothing).** -/
theorem C06_reservoir_zero_capacity (ops : List ResOp) : (runRes 0 ops).size = 0 := by
  obtain ⟨_, _, _, hs⟩ := C06_reservoir_topk 0 ops
  exact hs.trans (Nat.min_zero _)

/-- **C06 (synthetics outrank).**  With sampling priorities in their documented range `[0, 2)` a synthetics
event is never dropped while a non-synthetics event is retained. -/
theorem C06_synthetics_outrank (K : Nat) (ops : List ResOp)
    (hrange : ∀ o ∈ ops, match o with
      | .add e => e.prio < 2000000
      | .addSyn e => 0 ≤ e.prio
      | .merge _ => True) :
    ∃ dropped, ((runRes K ops).toList ++ dropped).Perm (offeredBy ops) ∧
      ∀ d ∈ dropped, 2000000 ≤ d.prio → ∀ k ∈ (runRes K ops).toList, 2000000 ≤ k.prio := by
  obtain ⟨dropped, hp, hd, _⟩ := C06_reservoir_topk K ops
  exact ⟨dropped, hp, fun d hdm hsyn k hk => Int.le_trans hsyn (hd d hdm k hk)⟩

/-- errors: the operations are offers only -/
def runErr (cap : Nat) : List Ev → Option (Array Ev)
  | [] => some #[]
  | e :: es => match runErr cap es with   -- `es` are the earlier offers (list is newest first)
    | some a => errAdd cap a e
    | none => none

/-- **C06 (errors).**  For every offer sequence (newest first) into an error heap of capacity `K > 0` the call
never fails, and the retained errors are a top-`K` selection of the offered ones. -/
theorem C06_errors_topk (K : Nat) (hK : 0 < K) (es : List Ev) :
    ∃ a, runErr K es = some a ∧ a.size = min es.length K ∧ IsHeap evKey a ∧
      ∃ dropped, (a.toList ++ dropped).Perm es ∧ ∀ d ∈ dropped, ∀ k ∈ a.toList, d.prio ≤ k.prio :=
  offerRun_topk K (errAdd K) (runErr K) rfl (fun _ _ _ h => by simp only [runErr, h]) (errAdd_offer K hK) es

/-- **C06 (errors, stability).**  A retained error is displaced only by a later error of strictly higher
priority: if a call to a full heap changes it, the new error's priority exceeds the minimum retained one. -/
theorem C06_errors_stable (K : Nat) (a a' : Array Ev) (e : Ev) (h0 : 0 < a.size) (hfull : a.size = K)
    (hr : errAdd K a e = some a') (hne : a' ≠ a) : a[0].prio < e.prio := by
  rw [errAdd, if_pos hfull, dif_pos h0] at hr
  split at hr
  · exact absurd (Option.some.inj hr).symm hne
  · next hgt => exact Int.not_le.mp hgt

def runTrace (cap : Nat) : List Ev → Option (Array Ev)
  | [] => some #[]
  | e :: es => match runTrace cap es with
    | some a => traceAdd cap a e
    | none => none

/-- **C06 (traces).**  For every offer sequence into a trace heap of capacity `K > 0` (K = 1, 10, 20 in the
daemon, pinned by `Gen.Limits`) the retained traces are the longest-running ones. -/
theorem C06_traces_longest (K : Nat) (hK : 0 < K) (es : List Ev) :
    ∃ a, runTrace K es = some a ∧ a.size = min es.length K ∧ IsHeap evKey a ∧
      ∃ dropped, (a.toList ++ dropped).Perm es ∧ ∀ d ∈ dropped, ∀ k ∈ a.toList, d.prio ≤ k.prio :=
  offerRun_topk K (traceAdd K) (runTrace K) rfl (fun _ _ _ h => by simp only [runTrace, h])
    (fun a e _ => traceAdd_offer K hK a e) es

/-- the daemon's fixed capacities are positive, so the two theorems above apply to them (regenerated) -/
theorem C06_fixed_capacities_positive :
    0 < Gen.Limits.MaxErrors ∧ 0 < Gen.Limits.MaxRegularTraces ∧ 0 < Gen.Limits.MaxForcePersistTraces ∧
    0 < Gen.Limits.MaxSyntheticsTraces := by decide

/-! sanity test (evaluated, not a proof; the theorems above have no hypotheses that could be vacuous): a concrete
over-capacity history with a synthetics event and a carried-over reservoir. -/
#guard (runRes 2 [.add ⟨5, 1⟩, .add ⟨7, 2⟩, .addSyn ⟨1, 3⟩, .merge #[⟨9, 4⟩, ⟨5, 5⟩]]).toList.map (·.prio)
    == [9, 2000001]

/-! ## Slow SQLs (`Model/SlowSQL.lean`, `Lemmas/SlowSQL.lean`) -/

/-- **C06 (slow SQLs).**  For every capacity K (K = 10 in the daemon, pinned by `Gen.Limits`; 0 included) and every sequence
of observations, in any order and with any repetitions: at most K statements are retained, each id once; and every
observation ever made is accounted for — either it was merged into a retained statement whose maximum duration is at least
its own, or the collection is full, its statement is not retained, and it is no slower than any retained statement.  So
the retained statements are the ones with the largest maximum duration. -/
theorem C06_slow_sql_topk (cap : Nat) (obs : List Slow) :
    let res := obs.foldl (slowObserve cap) []
    res.length ≤ cap ∧ (res.map (·.id)).Nodup ∧
    ∀ o ∈ obs, (∃ r ∈ res, r.id = o.id ∧ o.max ≤ r.max) ∨
               (res.length = cap ∧ (∀ r ∈ res, r.id ≠ o.id) ∧ ∀ r ∈ res, o.max ≤ r.max) := by
  have h := slowFold_inv cap obs [] [] ⟨by simp, by simp, by simp⟩
  exact ⟨h.len, h.ids, fun o ho => h.cov o (by simpa using ho)⟩

/-- **C06 (repeated observations are merged).**  Counts and totals are added, the minimum and the maximum are kept, and
the text is that of the slowest observation. -/
theorem C06_slow_sql_merge (s o : Slow) :
    (s.merge o).id = s.id ∧ (s.merge o).count = s.count + o.count ∧ (s.merge o).total = s.total + o.total ∧
    (s.merge o).min = Nat.min s.min o.min ∧ (s.merge o).max = Nat.max s.max o.max ∧
    (s.merge o).text = if o.max > s.max then o.text else s.text :=
  Slow.merge_fields s o

/-- **C06 (tie: the heap orders are the code's).**  `ErrorHeap.Less`, `TxnTraceHeap.Less` and
`SamplingPriority.IsLowerPriority` (the order of the event reservoirs), as translated from the source on this run, compare
their keys with `<` — the comparison the transcription of `container/heap` (`GoHeap.up`, `GoHeap.down`, `GoHeap.minChild`)
makes on the keys `evKey`. -/
theorem C06_heap_orders_tied (p q : Int) :
    Gen.Decisions.errorLess p q = decide (p < q) ∧ Gen.Decisions.traceLess p q = decide (p < q) ∧
    Gen.Decisions.isLowerPriority p q = decide (p < q) := ⟨rfl, rfl, rfl⟩

/-- **C06 (tie).**  `eventsAddEvent`: fill, heap initialisation at capacity, then replace the minimum only by a higher priority. -/
theorem C06_add_event_source_tied : Gen.Skeleton.eventsAddEvent = Reviewed.eventsAddEvent := rfl
