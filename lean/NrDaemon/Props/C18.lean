import NrDaemon.Model.Limiter
import NrDaemon.Gen.Limits
import NrDaemon.Gen.Skeleton
/-!
  C18 — outbound requests are limited without leaking capacity.
-/

/-- the invariant: tokens in the semaphore + requests inside the inner client = the configured maximum -/
def LInv (s : LState) : Prop := s.permits + s.running.length = s.max

theorem LState.step_inv (s : LState) (e : LEvent) (h : LInv s) : LInv (s.step e) ∧ (s.step e).max = s.max := by
  unfold LInv at *
  unfold LState.step
  split
  · exact ⟨h, rfl⟩
  · next hen =>
    have hen : s.enabled e = true := by simpa using hen
    cases e with
    | arrive i | timeout i => exact ⟨h, rfl⟩
    | acquire i =>
      -- a token leaves the semaphore with the request that enters
      simp only [LState.enabled, Bool.and_eq_true, decide_eq_true_eq] at hen
      refine ⟨?_, rfl⟩
      simp only [List.length_append, List.length_singleton]
      omega
    | finish i | panic i =>
      -- the deferred release: the token comes back with the request that leaves, however it leaves
      have hm : i ∈ s.running := List.contains_iff_mem.mp hen
      refine ⟨?_, rfl⟩
      simp only
      rw [List.length_erase_of_mem hm, Nat.add_assoc, Nat.add_sub_cancel' (List.length_pos_of_mem hm)]
      exact h

/-- **C18 (invariant, all interleavings).**  After any sequence of arrivals, acquisitions, time-outs, normal and
panicking completions, `tokens + requests in flight = max`. -/
theorem C18_inv (max : Nat) (es : List LEvent) :
    LInv ((LState.init max).run es) ∧ ((LState.init max).run es).max = max :=
  es.foldlRecOn (motive := fun s : LState => LInv s ∧ s.max = max) _ ⟨rfl, rfl⟩ fun s hs e _ =>
    ⟨(s.step_inv e hs.1).1, (s.step_inv e hs.1).2.trans hs.2⟩

/-- **C18 (bound).**  Never more than `max` requests are in flight. -/
theorem C18_bound (max : Nat) (es : List LEvent) : ((LState.init max).run es).running.length ≤ max := by
  have ⟨h, hm⟩ := C18_inv max es
  exact Nat.le_trans (Nat.le_add_left _ _) (Nat.le_of_eq (h.trans hm))

/-- **C18 (no leak).**  Whenever nothing is in flight the full capacity is available again — after any number of
failures, panics and time-outs. -/
theorem C18_no_leak (max : Nat) (es : List LEvent) (hq : ((LState.init max).run es).running = []) :
    ((LState.init max).run es).permits = max := by
  have ⟨h, hm⟩ := C18_inv max es
  rw [LInv, hq] at h
  exact h.trans hm

/-- **C18 (time-out fails without touching the capacity).** -/
theorem C18_timeout_fails (s : LState) (i : Nat) (h : s.waiting.contains i = true) :
    (s.step (.timeout i)).permits = s.permits ∧ (s.step (.timeout i)).running = s.running ∧
    i ∈ (s.step (.timeout i)).failed := by
  have he : s.enabled (.timeout i) = true := h
  unfold LState.step
  simp only [he, Bool.not_true, Bool.false_eq_true, if_false]
  exact ⟨trivial, trivial, by simp⟩

/-- a request that cannot get a token can always time out: it never waits indefinitely -/
theorem C18_timeout_enabled (s : LState) (i : Nat) (h : s.waiting.contains i = true) :
    s.enabled (.timeout i) = true := h

/-- the configured maximum and the time-out (regenerated from limits.go) -/
theorem C18_constants : Gen.Limits.MaxOutboundConns = 100 ∧ Gen.Limits.HarvestTimeout = 45000000000 := by decide

/-- `limitClient.Execute` as last reviewed in client.go: take a token or time out; the token goes back in a deferred call (so
also when the inner client panics) and only on the path that took one — the transitions `acquire` / `finish` / `panic` /
`timeout` of the limiter machine -/
def reviewedLimitExecute : List String := [
  "if 0!=l.timeout {",
  "timer = time.After(…)",
  "}",
  "select {",
  "case <-l.semaphore:",
  "defer func(){l.semaphore <- true}()",
  "resp := l.orig.Execute(…)",
  "return resp",
  "case <-timer:",
  "return NewRPMResponseError(…)",
  "}"
]

/-- **C18 (tie: the limiter machine transcribes the code).** -/
theorem C18_execute_source_tied : Gen.Skeleton.limitExecute = reviewedLimitExecute := rfl
