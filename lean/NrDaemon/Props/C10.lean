import NrDaemon.Lemmas.Proc
/-!
  C10 — malformed agent messages are contained.

  The flatbuffers decoder is not modelled: `FlatTxn.AggregateInto` on arbitrary bytes is an ARBITRARY function of the
  addressed run's harvest (it may apply any prefix of the message's actions and then panic — the panic is recovered
  in `processTxnData` — or apply garbage).  Containment is proved for every such function.
-/
open Gen.Limits

/-- `processTxnData` with an arbitrary effect `f` of the (possibly corrupt) message on the addressed harvest -/
def processTxnWith (s : PState) (runId : String) (f : HarvestM → HarvestM) : PState :=
  match getRun s runId with
  | none => s
  | some run =>
    let s := setRun s runId { run with h := f { run.h with commands := run.h.commands + 1 } }
    match getApp s run.app with
    | none => s
    | some app => setApp s run.app { app with lastActivity := s.now }

/-- the well-formed case is an instance -/
theorem C10_wellformed_instance (s : PState) (r : String) (t : TxnM) :
    processTxn s r t = processTxnWith s r (fun h => aggregateTxn h t) := rfl

/-- **C10 (no run id, no effect).**  A message — whatever its bytes — addressed to a run id the daemon does not hold
changes nothing. -/
theorem C10_unknown_run_no_effect (s : PState) (r : String) (f : HarvestM → HarvestM) (h : getRun s r = none) :
    processTxnWith s r f = s := by simp [processTxnWith, h]

/-- **C10 (other runs are untouched).**  Whatever a message does to the harvest of the run it is addressed to, the
harvest of every other run is exactly what it was. -/
theorem C10_other_runs_untouched (s : PState) (r r' : String) (f : HarvestM → HarvestM) (hne : r' ≠ r) :
    getRun (processTxnWith s r f) r' = getRun s r' := by
  unfold processTxnWith
  split
  · rfl
  · dsimp only
    split <;> simp [hne]

/-- **C10 (requests in flight, groups and the clock are untouched; the processor keeps running).** -/
theorem C10_rest_untouched (s : PState) (r : String) (f : HarvestM → HarvestM) :
    (processTxnWith s r f).inflight = s.inflight ∧ (processTxnWith s r f).groups = s.groups ∧
    (processTxnWith s r f).now = s.now ∧ (processTxnWith s r f).stopped = s.stopped ∧
    (processTxnWith s r f).duQueue = s.duQueue := by
  fun_cases processTxnWith s r f <;> exact ⟨rfl, rfl, rfl, rfl, rfl⟩

/-- **C10 (application states are untouched).**  No message can change the lifecycle state, collector, connect reply
or identity of any application (only the activity time stamp of the addressed run's application moves). -/
theorem C10_app_states_untouched (s : PState) (r : String) (f : HarvestM → HarvestM) (h : String) :
    ((getApp (processTxnWith s r f) h).map (fun a => (a.state, a.collector, a.reply, a.runId, a.cfg))) =
    ((getApp s h).map (fun a => (a.state, a.collector, a.reply, a.runId, a.cfg))) := by
  unfold processTxnWith
  split
  · rfl
  · next run hrun =>
    dsimp only
    split
    · rfl
    · next app happ =>
      exact map_touch (show getApp s run.app = some app from happ) (fun h => getApp_setApp _ _ _ h) (by rfl) h

/-- the listener: a panic while decoding on a connection goroutine ends that connection only.  Connections are
independent lists of messages; `decodeOk m = false` stands for "the handler panicked on m". -/
def serveConn (decodeOk : Nat → Bool) : List Nat → List Nat
  | [] => []
  | m :: ms => if decodeOk m then m :: serveConn decodeOk ms else []

def serveAll (decodeOk : Nat → Bool) (conns : List (List Nat)) : List (List Nat) := conns.map (serveConn decodeOk)

/-- **C10 (listener containment).**  What is delivered from one connection does not depend on the traffic — corrupt
or not — of any other connection, and everything before the offending message on the same connection is delivered. -/
theorem C10_listener_contained (decodeOk : Nat → Bool) (before after : List (List Nat)) (c c' : List Nat) :
    (serveAll decodeOk (before ++ c :: after)).take before.length = (serveAll decodeOk (before ++ c' :: after)).take before.length ∧
    (serveAll decodeOk (before ++ c :: after)).drop (before.length + 1) = (serveAll decodeOk (before ++ c' :: after)).drop (before.length + 1) := by
  -- `serveAll` serves each connection by itself (a `map`), so neither side sees the connection that differs
  simp [serveAll, List.drop_append]

theorem C10_prefix_delivered (decodeOk : Nat → Bool) (good : List Nat) (bad : Nat) (rest : List Nat)
    (hg : ∀ m ∈ good, decodeOk m = true) (hb : decodeOk bad = false) :
    serveConn decodeOk (good ++ bad :: rest) = good := by
  induction good with
  | nil => simp [serveConn, hb]
  | cons g gs ih =>
    have hgm := hg g (by simp)
    simp only [List.cons_append, serveConn, hgm, if_true]
    rw [ih (fun m hm => hg m (by simp [hm]))]
