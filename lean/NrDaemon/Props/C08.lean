import NrDaemon.Props.Reviewed
import NrDaemon.Gen.Skeleton
import NrDaemon.Model.Json
/-!
  C08 — every outbound payload is well-formed for its endpoint.

  The string encoder (fully proved, for ALL byte strings): the output of the hand-written string encoder is a JSON string token.
  The builders: each hand-assembling builder produces exactly the rendering of a JSON tree of the documented shape whose string
  leaves are encoder outputs, whose number leaves are decimal integers and whose remaining leaves are the agent's
  pre-encoded fragments; a non-finite metric value makes the metric payload fail.
  The grammar: the rendering of such a tree is generated by the JSON grammar `IsJson` over its leaf tokens (`render_isJson`),
  hence so is every payload.  That the grammar is that of encoding/json is validated differentially (encoding/json.Valid on
  every payload of the correspondence run).
-/

/-! ## The string encoder -/

def isHexByte (b : UInt8) : Bool := (0x30 ≤ b && b ≤ 0x39) || (0x61 ≤ b && b ≤ 0x66) || (0x41 ≤ b && b ≤ 0x46)

def simpleEsc (c : UInt8) : Bool :=
  c == 0x22 || c == 0x5C || c == 0x2F || c == 0x62 || c == 0x66 || c == 0x6E || c == 0x72 || c == 0x74

def hex4 (l : JBytes) : Bool := decide (4 ≤ l.length) && (l.take 4).all isHexByte

/-- RFC 8259 string body (between the quotes): unescaped bytes ≥ 0x20 other than `"` and `\`, two-character escapes,
and `\uXXXX` -/
def strBodyOk : JBytes → Bool
  | [] => true
  | b :: rest =>
    if b == 0x5C then
      match rest with
      | [] => false
      | c :: rest' =>
        if c == 0x75 then hex4 rest' && strBodyOk (rest'.drop 4)
        else simpleEsc c && strBodyOk rest'
    else (0x20 ≤ b && b != 0x22) && strBodyOk rest
termination_by l => l.length
decreasing_by
  all_goals simp_wf
  all_goals (try simp only [List.length_drop]); omega

theorem strBody_plain (b : UInt8) (t : JBytes) (h1 : 0x20 ≤ b) (h2 : b ≠ 0x22) (h3 : b ≠ 0x5C) :
    strBodyOk (b :: t) = strBodyOk t := by
  rw [strBodyOk.eq_def]
  simp [h1, h2, h3]

theorem strBody_esc2 (c : UInt8) (t : JBytes) (hc : simpleEsc c = true) : strBodyOk (0x5C :: c :: t) = strBodyOk t := by
  have hne : c ≠ 0x75 := by rintro rfl; exact absurd hc (by decide)
  rw [strBodyOk.eq_def]
  simp [hne, hc]

theorem strBody_escu {h1 h2 h3 h4 : UInt8} (t : JBytes)
    (e1 : isHexByte h1 = true) (e2 : isHexByte h2 = true) (e3 : isHexByte h3 = true) (e4 : isHexByte h4 = true) :
    strBodyOk ([0x5C, 0x75, h1, h2, h3, h4] ++ t) = strBodyOk t := by
  rw [List.cons_append, strBodyOk.eq_def]
  simp [hex4, e1, e2, e3, e4]

theorem strBody_high (l t : JBytes) (h : ∀ b ∈ l, (0x80 : UInt8) ≤ b) : strBodyOk (l ++ t) = strBodyOk t := by
  induction l with
  | nil => rfl
  | cons b l ih =>
    have hb := h b (by simp)
    rw [List.cons_append, strBody_plain b _ (UInt8.le_trans (by decide) hb) (by rintro rfl; exact absurd hb (by decide))
      (by rintro rfl; exact absurd hb (by decide))]
    exact ih (fun x hx => h x (by simp [hx]))

theorem hexDigitLower_isHex (n : Nat) (h : n < 16) : isHexByte (hexDigitLower n) = true :=
  (by decide : ∀ n : Fin 16, isHexByte (hexDigitLower n) = true) ⟨n, h⟩

theorem cont_high (b : UInt8) (h : cont b = true) : (0x80 : UInt8) ≤ b := by
  simp only [cont, Bool.and_eq_true, decide_eq_true_eq] at h
  exact h.1

theorem utf8Len_high (s : JBytes) (h0 : ∀ b ∈ s.head?, (0x80 : UInt8) ≤ b) :
    ∀ x ∈ s.take (utf8Len s), (0x80 : UInt8) ≤ x := by
  fun_cases utf8Len s
  -- width 2: lead byte, continuation byte
  case case1 b0 b1 _ _ h1 => simpa using ⟨h0 b0 rfl, cont_high _ h1⟩
  -- width 3 (`h` is `ok3 && cont b2`): each of the four alternatives of `ok3` puts `b1` in a range above 0x80
  case case3 b0 b1 _ b2 _ ok3 h =>
    simp only [ok3, Bool.or_eq_true, Bool.and_eq_true, decide_eq_true_eq] at h
    have h1 : (0x80 : UInt8) ≤ b1 := by
      obtain ((⟨⟨-, l⟩, -⟩ | ⟨-, c⟩) | ⟨⟨-, l⟩, -⟩) | ⟨-, c⟩ := h.1
      · exact UInt8.le_trans (by decide) l
      · exact cont_high _ c
      · exact l
      · exact cont_high _ c
    simpa using ⟨h0 b0 rfl, h1, cont_high _ h.2⟩
  -- width 4 (`h` is `ok4 && cont b2 && cont b3`): likewise for the three alternatives of `ok4`
  case case4 b0 b1 _ b2 ok3 _ b3 _ ok4 h =>
    simp only [ok4, Bool.or_eq_true, Bool.and_eq_true, decide_eq_true_eq] at h
    have h1 : (0x80 : UInt8) ≤ b1 := by
      obtain (⟨⟨-, l⟩, -⟩ | ⟨-, c⟩) | ⟨⟨-, l⟩, -⟩ := h.1.1
      · exact UInt8.le_trans (by decide) l
      · exact cont_high _ c
      · exact l
    simpa using ⟨h0 b0 rfl, h1, cont_high _ h.1.2, cont_high _ h.2⟩
  -- no valid sequence: width 0, nothing is taken
  all_goals simp

/-- every branch of `escapeBody` emits one unit of the string grammar (a plain byte, a two-character escape, a `\uXXXX`
escape, or a multi-byte sequence) in front of the encoding of the rest -/
theorem escapeBody_ok (fuel : Nat) (s : JBytes) : strBodyOk (escapeBody fuel s) = true := by
  fun_induction escapeBody fuel s
  -- out of fuel, or end of input: the empty body
  case case1 | case2 => rw [strBodyOk]
  -- a byte from 0x20 to 0x7F other than `\ " < > &`, copied
  case case3 b _ _ h ih =>
    simp only [Bool.and_eq_true, bne_iff_ne, ne_eq, decide_eq_true_eq] at h
    rwa [strBody_plain b _ h.1.1.1.1.1 h.1.1.1.2 h.1.1.1.1.2]
  -- `\` and `"`, escaped by a backslash
  case case4 b _ _ _ h ih =>
    obtain rfl | rfl : b = 0x5C ∨ b = 0x22 := by simpa using h
    all_goals exact (strBody_esc2 _ _ (by decide)).trans ih
  -- `\n`, `\r`, `\t`
  case case5 ih | case6 ih | case7 ih => exact (strBody_esc2 _ _ (by decide)).trans ih
  -- any other byte below 0x80 (control characters, `< > &`): `\u00XX`
  case case8 b _ _ _ _ _ _ _ ih =>
    exact (strBody_escu _ (by decide) (by decide) (hexDigitLower_isHex _ (Nat.div_lt_of_lt_mul b.toNat_lt))
      (hexDigitLower_isHex _ (Nat.mod_lt _ (by decide)))).trans ih
  -- invalid UTF-8: `\ufffd`; U+2028, U+2029: `\u2028`, `\u2029`
  case case9 ih | case10 ih | case11 ih =>
    exact (strBody_escu _ (by decide) (by decide) (by decide) (by decide)).trans ih
  -- a valid multi-byte sequence, copied: all its bytes are ≥ 0x80
  case case12 b rest hge _ _ _ ih =>
    exact (strBody_high _ _ (utf8Len_high (b :: rest) (by simpa [UInt8.not_lt] using hge))).trans ih

/-- a JSON string token: opening quote, a body accepted by the RFC 8259 string grammar, closing quote -/
def IsStringToken (t : JBytes) : Prop := ∃ body, t = 0x22 :: body ++ [0x22] ∧ strBodyOk body = true

/-- **C08 (string encoder).**  For EVERY byte string — invalid UTF-8, control characters, quotes, backslashes,
U+2028/9 included — the output of `AppendString` is a well-formed JSON string token. -/
theorem C08_appendString_valid (s : JBytes) : IsStringToken (appendString s) :=
  ⟨escapeBody s.length s, rfl, escapeBody_ok _ _⟩

/-- **C08 (non-finite values fail the payload).**  A NaN or infinite value anywhere makes the metric payload fail
instead of producing output. -/
theorem C08_float_valid_or_error (v : FVal) :
    (∃ i, v = .int i ∧ appendFloat v = some (bs (toString i))) ∨ (appendFloat v = none ∧ (v = .nan ∨ v = .posInf ∨ v = .negInf)) := by
  cases v with
  | int i => exact Or.inl ⟨i, rfl, rfl⟩
  | nan => exact Or.inr ⟨rfl, Or.inl rfl⟩
  | posInf => exact Or.inr ⟨rfl, Or.inr (Or.inl rfl)⟩
  | negInf => exact Or.inr ⟨rfl, Or.inr (Or.inr rfl)⟩

/-! ### `allSome`: all present, or none -/

theorem allSome_eq_some {α : Type} {l : List (Option α)} {xs : List α} (h : allSome l = some xs) : l = xs.map some := by
  induction l generalizing xs with
  | nil => cases h; rfl
  | cons x l ih =>
    cases x with
    | none => cases h
    | some a =>
      obtain ⟨ys, hys, rfl⟩ := Option.map_eq_some_iff.mp h
      rw [ih hys]; rfl

theorem allSome_none_of_mem {α : Type} (l : List (Option α)) (h : none ∈ l) : allSome l = none := by
  cases hl : allSome l with
  | none => rfl
  | some xs => simp [allSome_eq_some hl] at h

theorem mem_of_allSome_map {α β : Type} {f : α → Option β} {l : List α} {xs : List β} (h : allSome (l.map f) = some xs)
    {x : β} (hx : x ∈ xs) : ∃ a ∈ l, f a = some x := by
  have : some x ∈ l.map f := by rw [allSome_eq_some h]; exact List.mem_map_of_mem hx
  simpa using this

theorem allSome_map_map {α β γ : Type} (f : α → Option β) (g : β → γ) (l : List α) :
    allSome (l.map fun a => (f a).map g) = (allSome (l.map f)).map (List.map g) := by
  induction l with
  | nil => rfl
  | cons a l ih =>
    cases h : f a with
    | none => simp [allSome, h]
    | some b => simp only [List.map_cons, h, Option.map_some, allSome, ih]; cases allSome (l.map f) <;> rfl

theorem C08_metrics_nonfinite_fails (runId : JBytes) (start stop : Int) (rows : List MRow) (r : MRow) (v : FVal)
    (hr : r ∈ rows) (hv : v ∈ r.vals) (hbad : appendFloat v = none) :
    metricsPayload runId start stop rows = none := by
  have h1 : metricRow r = none :=
    congrArg (Option.map _) (allSome_none_of_mem _ (List.mem_map.mpr ⟨v, hv, hbad⟩))
  exact congrArg (Option.map _) (allSome_none_of_mem _ (List.mem_map.mpr ⟨r, hr, h1⟩))

/-! ### JSON trees and their rendering -/

/-- a JSON tree with already-encoded leaves -/
inductive JV where
  | tok (t : JBytes)                 -- a string token produced by the encoder, a decimal integer, or an agent fragment
  | arr (items : List JV)
  | obj (members : List (JBytes × JV))  -- keys are whole string tokens, quotes included

mutual
  def JV.render : JV → JBytes
    | .tok t => t
    | .arr items => bs "[" ++ JV.renderList items ++ bs "]"
    | .obj ms => bs "{" ++ JV.renderMembers ms ++ bs "}"
  def JV.renderList : List JV → JBytes
    | [] => []
    | [x] => x.render
    | x :: y :: xs => x.render ++ bs "," ++ JV.renderList (y :: xs)
  def JV.renderMembers : List (JBytes × JV) → JBytes
    | [] => []
    | [(k, v)] => k ++ bs ":" ++ v.render
    | (k, v) :: m :: ms => k ++ bs ":" ++ v.render ++ bs "," ++ JV.renderMembers (m :: ms)
end

/-! Rendering a list is `joinWith` of the renderings, which is how the builders write lists: through `render_arr` and
`render_obj` every shape theorem below is an unfolding followed by re-association of `++`. -/

theorem renderList_eq (l : List JV) : JV.renderList l = joinWith (bs ",") (l.map JV.render) := by
  induction l with
  | nil => rfl
  | cons x xs ih =>
    cases xs with
    | nil => rfl
    | cons y ys => exact congrArg (x.render ++ bs "," ++ ·) ih

theorem renderMembers_eq (ms : List (JBytes × JV)) :
    JV.renderMembers ms = joinWith (bs ",") (ms.map fun m => m.1 ++ bs ":" ++ m.2.render) := by
  induction ms with
  | nil => rfl
  | cons x xs ih =>
    cases xs with
    | nil => rfl
    | cons y ys => exact congrArg (x.1 ++ bs ":" ++ x.2.render ++ bs "," ++ ·) ih

theorem render_tok (t : JBytes) : (JV.tok t).render = t := rfl

theorem render_arr (l : List JV) : (JV.arr l).render = bs "[" ++ joinWith (bs ",") (l.map JV.render) ++ bs "]" :=
  congrArg (bs "[" ++ · ++ bs "]") (renderList_eq l)

theorem render_obj (ms : List (JBytes × JV)) :
    (JV.obj ms).render = bs "{" ++ joinWith (bs ",") (ms.map fun m => m.1 ++ bs ":" ++ m.2.render) ++ bs "}" :=
  congrArg (bs "{" ++ · ++ bs "}") (renderMembers_eq ms)

/-! ## The rendered trees are JSON texts (RFC 8259 grammar; of insignificant white space only one blank after `:`, see `oneSp`) -/

mutual
  /-- JSON values over a class of leaf tokens (strings, numbers, literals, agent fragments) -/
  inductive IsJson (leaf : JBytes → Prop) : JBytes → Prop
    | tok {t : JBytes} : leaf t → IsJson leaf t
    | emptyArr : IsJson leaf (bs "[" ++ [] ++ bs "]")
    | arr {b : JBytes} : IsElems leaf b → IsJson leaf (bs "[" ++ b ++ bs "]")
    | emptyObj : IsJson leaf (bs "{" ++ [] ++ bs "}")
    | obj {b : JBytes} : IsMembers leaf b → IsJson leaf (bs "{" ++ b ++ bs "}")
  /-- value (',' value)* -/
  inductive IsElems (leaf : JBytes → Prop) : JBytes → Prop
    | one {v : JBytes} : IsJson leaf v → IsElems leaf v
    | cons {v rest : JBytes} : IsJson leaf v → IsElems leaf rest → IsElems leaf (v ++ bs "," ++ rest)
  /-- string ':' value (',' string ':' value)* -/
  inductive IsMembers (leaf : JBytes → Prop) : JBytes → Prop
    | one {k v : JBytes} : IsStringToken k → IsJson leaf v → IsMembers leaf (k ++ bs ":" ++ v)
    | cons {k v rest : JBytes} : IsStringToken k → IsJson leaf v → IsMembers leaf rest →
        IsMembers leaf (k ++ bs ":" ++ v ++ bs "," ++ rest)
    -- insignificant white space (one blank) after the name separator, as the log payload writes it
    | oneSp {k v : JBytes} : IsStringToken k → IsJson leaf v → IsMembers leaf (k ++ bs ": " ++ v)
    | consSp {k v rest : JBytes} : IsStringToken k → IsJson leaf v → IsMembers leaf rest →
        IsMembers leaf (k ++ bs ": " ++ v ++ bs "," ++ rest)
end

mutual
  /-- every leaf of the tree is an acceptable token and every key a string token -/
  def JV.WellFormed (leaf : JBytes → Prop) : JV → Prop
    | .tok t => leaf t
    | .arr items => JV.WellFormedList leaf items
    | .obj ms => JV.WellFormedMembers leaf ms
  def JV.WellFormedList (leaf : JBytes → Prop) : List JV → Prop
    | [] => True
    | x :: xs => x.WellFormed leaf ∧ JV.WellFormedList leaf xs
  def JV.WellFormedMembers (leaf : JBytes → Prop) : List (JBytes × JV) → Prop
    | [] => True
    | (k, v) :: ms => IsStringToken k ∧ v.WellFormed leaf ∧ JV.WellFormedMembers leaf ms
end

theorem wellFormedList_iff (leaf : JBytes → Prop) (l : List JV) :
    JV.WellFormedList leaf l ↔ ∀ v ∈ l, v.WellFormed leaf := by
  induction l with
  | nil => exact iff_of_true trivial nofun
  | cons x xs ih => exact (and_congr_right' ih).trans List.forall_mem_cons.symm

theorem wellFormedMembers_iff (leaf : JBytes → Prop) (ms : List (JBytes × JV)) :
    JV.WellFormedMembers leaf ms ↔ ∀ m ∈ ms, IsStringToken m.1 ∧ m.2.WellFormed leaf := by
  induction ms with
  | nil => exact iff_of_true trivial nofun
  | cons x xs ih => simp [JV.WellFormedMembers, ih, and_assoc]

mutual
  theorem render_isJson (leaf : JBytes → Prop) : ∀ (v : JV), v.WellFormed leaf → IsJson leaf v.render
    | .tok _, h => .tok h
    | .arr [], _ => .emptyArr
    | .arr (x :: xs), h => .arr (renderList_isElems leaf (x :: xs) (List.cons_ne_nil _ _) h)
    | .obj [], _ => .emptyObj
    | .obj (m :: ms), h => .obj (renderMembers_isMembers leaf (m :: ms) (List.cons_ne_nil _ _) h)
  theorem renderList_isElems (leaf : JBytes → Prop) : ∀ (l : List JV), l ≠ [] → JV.WellFormedList leaf l →
      IsElems leaf (JV.renderList l)
    | [], h, _ => absurd rfl h
    | [x], _, hw => .one (render_isJson leaf x hw.1)
    | x :: y :: xs, _, hw =>
        .cons (render_isJson leaf x hw.1) (renderList_isElems leaf (y :: xs) (List.cons_ne_nil _ _) hw.2)
  theorem renderMembers_isMembers (leaf : JBytes → Prop) : ∀ (l : List (JBytes × JV)), l ≠ [] →
      JV.WellFormedMembers leaf l → IsMembers leaf (JV.renderMembers l)
    | [], h, _ => absurd rfl h
    | [(_, v)], _, hw => .one hw.1 (render_isJson leaf v hw.2.1)
    | (_, v) :: m :: ms, _, hw =>
        .cons hw.1 (render_isJson leaf v hw.2.1) (renderMembers_isMembers leaf (m :: ms) (List.cons_ne_nil _ _) hw.2.2)
end

/-! ## The builders: each payload is the rendering of a well-formed tree, hence a JSON text -/

/-- the two literal keys of the event payload are string tokens.  `rfl` does not reduce `String.toUTF8` on literals (the
kernel does, `decide +kernel`, at about 5·10⁵ heartbeats a key), so this is checked by evaluation (`#guard`), not by proof,
and enters the theorem below as a hypothesis. -/
def eventKeysOk : Bool :=
  bs "\"reservoir_size\"" == 0x22 :: bs "reservoir_size" ++ [0x22] && strBodyOk (bs "reservoir_size") &&
  bs "\"events_seen\"" == 0x22 :: bs "events_seen" ++ [0x22] && strBodyOk (bs "events_seen")
#guard eventKeysOk

/-- **C08 (event payload shape).**  `[run id, {"reservoir_size":C,"events_seen":S}, [fragments…]]` for empty, single,
full, split and carried-over reservoirs alike (the builder does not depend on how the events got there). -/
theorem C08_events_payload_shape (runId : JBytes) (cap seen : Nat) (events : List JBytes) :
    eventsPayload runId cap seen events =
      (JV.arr [.tok (appendString runId),
               .obj [(bs "\"reservoir_size\"", .tok (bs (toString cap))), (bs "\"events_seen\"", .tok (bs (toString seen)))],
               .arr (events.map .tok)]).render := by
  -- `unfold`, not `simp only [eventsPayload]`: the equation lemma simp would ask for is generated after a failing defeq check
  -- that explores this long left-nested chain of `++` exponentially (34 M heartbeats before the proof starts)
  unfold eventsPayload
  simp only [render_arr, render_obj, render_tok, List.map_cons, List.map_nil, List.map_map, joinWith,
    Function.comp_def, List.map_id']
  ac_rfl

/-- **C08 (an event payload is a JSON text).**  For every run id (any bytes), every capacity and counter, and every list
of agent fragments that are JSON values themselves, the bytes `analyticsEvents.CollectorJSON` produces are generated by the
JSON grammar: brackets balance, separators sit between elements only, keys are string tokens. -/
theorem C08_events_payload_is_json (leaf : JBytes → Prop) (hs : ∀ t, IsStringToken t → leaf t)
    (hn : ∀ n : Nat, leaf (bs (toString n)))
    (hk1 : IsStringToken (bs "\"reservoir_size\"")) (hk2 : IsStringToken (bs "\"events_seen\""))
    (runId : JBytes) (cap seen : Nat) (events : List JBytes)
    (he : ∀ e ∈ events, leaf e) : IsJson leaf (eventsPayload runId cap seen events) := by
  rw [C08_events_payload_shape]
  exact render_isJson leaf _ ⟨hs _ (C08_appendString_valid runId), ⟨hk1, hn cap, hk2, hn seen, trivial⟩,
    (wellFormedList_iff leaf _).mpr (List.forall_mem_map.mpr he), trivial⟩

/-- the literal keys of the metric, package and log payloads are string tokens (checked by evaluation, see `eventKeysOk`) -/
def otherKeysOk : Bool :=
  ["name", "scope", "Jars", "common", "attributes", "logs"].all (fun k =>
    bs ("\"" ++ k ++ "\"") == 0x22 :: bs k ++ [0x22] && strBodyOk (bs k))
#guard otherKeysOk

/-- **C08 (package payloads).**  `["Jars", D]`, and the filtered list is an array of `[name, version, {}]` triples whose
strings all come from the string encoder (so any byte in a package name or version is escaped). -/
theorem C08_packages_payload_shape (data : JBytes) (pkgs : List (JBytes × JBytes)) (hne : pkgs ≠ []) :
    packagesPayload data = (JV.arr [.tok (bs "\"Jars\""), .tok data]).render ∧
    filteredPackages pkgs = some (JV.arr (pkgs.map (fun p =>
      JV.arr [.tok (appendString p.1), .tok (appendString p.2), .tok (bs "{}")]))).render := by
  simp only [packagesPayload, filteredPackages, List.isEmpty_eq_false_iff.mpr hne, render_arr, render_tok, List.map_cons,
    List.map_nil, List.map_map, joinWith, Function.comp_def, List.append_assoc, Bool.false_eq_true, if_false, true_and]

/-- **C08 (package payloads are JSON texts).**  `["Jars", D]` for a package list `D` that is itself a JSON value, and the
filtered list built from arbitrary name / version bytes. -/
theorem C08_packages_payload_is_json (leaf : JBytes → Prop) (hs : ∀ t, IsStringToken t → leaf t)
    (hobj : leaf (bs "{}")) (hk : IsStringToken (bs "\"Jars\""))
    (data : JBytes) (hd : leaf data) (pkgs : List (JBytes × JBytes)) (hne : pkgs ≠ []) :
    IsJson leaf (packagesPayload data) ∧ ∃ b, filteredPackages pkgs = some b ∧ IsJson leaf b := by
  obtain ⟨h1, h2⟩ := C08_packages_payload_shape data pkgs hne
  refine ⟨h1 ▸ render_isJson leaf _ ⟨hs _ hk, hd, trivial⟩, _, h2, render_isJson leaf _ ?_⟩
  exact (wellFormedList_iff leaf _).mpr (List.forall_mem_map.mpr fun p _ =>
    ⟨hs _ (C08_appendString_valid p.1), hs _ (C08_appendString_valid p.2), hobj, trivial⟩)

/-- the tree of one metric row, if all its values are finite -/
def MRow.tree (r : MRow) : Option JV :=
  (allSome (r.vals.map appendFloat)).map fun fs =>
    .arr [.obj ([(bs "\"name\"", JV.tok (appendString r.name))] ++
                (if r.scope.isEmpty then [] else [(bs "\"scope\"", JV.tok (appendString r.scope))])),
          .arr (fs.map .tok)]

theorem metricRow_eq (r : MRow) : metricRow r = r.tree.map JV.render := by
  unfold metricRow MRow.tree
  cases allSome (r.vals.map appendFloat) with
  | none => rfl
  | some fs =>
    by_cases he : r.scope.isEmpty <;>
      simp only [he, Option.map_some, render_arr, render_obj, render_tok, List.map_cons, List.map_nil, List.map_map, joinWith,
        Function.comp_def, List.map_id', if_true, if_false, Bool.false_eq_true, List.cons_append, List.nil_append,
        Option.some.injEq] <;> ac_rfl

theorem metricsPayload_eq (runId : JBytes) (start stop : Int) (rows : List MRow) :
    metricsPayload runId start stop rows = (allSome (rows.map MRow.tree)).map fun ts =>
      (JV.arr [.tok (appendString runId), .tok (appendInt start), .tok (appendInt stop), .arr ts]).render := by
  unfold metricsPayload
  rw [funext metricRow_eq, allSome_map_map]
  cases allSome (rows.map MRow.tree) <;>
    simp only [Option.map_none, Option.map_some, render_arr, render_tok, List.map_cons, List.map_nil, joinWith,
      Option.some.injEq]
  ac_rfl

/-- **C08 (metric payload shape).**  `[run id, start, end, [[{"name":N(,"scope":S)},[six numbers]]…]]`. -/
theorem C08_metric_row_shape (r : MRow) (fs : List JBytes) (h : allSome (r.vals.map appendFloat) = some fs) :
    metricRow r = some (JV.arr [
      .obj ([(bs "\"name\"", JV.tok (appendString r.name))] ++
            (if r.scope.isEmpty then [] else [(bs "\"scope\"", JV.tok (appendString r.scope))])),
      .arr (fs.map .tok)]).render := by
  rw [metricRow_eq, MRow.tree, h]; rfl

theorem MRow.tree_wellFormed (leaf : JBytes → Prop) (hs : ∀ t, IsStringToken t → leaf t)
    (hi : ∀ i : Int, leaf (bs (toString i)))
    (hk1 : IsStringToken (bs "\"name\"")) (hk2 : IsStringToken (bs "\"scope\"")) {r : MRow} {t : JV} (h : r.tree = some t) :
    t.WellFormed leaf := by
  obtain ⟨fs, hfs, rfl⟩ := Option.map_eq_some_iff.mp h
  refine ⟨?_, (wellFormedList_iff leaf _).mpr (List.forall_mem_map.mpr fun f hf => ?_), trivial⟩
  · by_cases he : r.scope.isEmpty
    · simp only [he, if_true]
      exact ⟨hk1, hs _ (C08_appendString_valid r.name), trivial⟩
    · simp only [he]
      exact ⟨hk1, hs _ (C08_appendString_valid r.name), hk2, hs _ (C08_appendString_valid r.scope), trivial⟩
  · obtain ⟨v, -, hv⟩ := mem_of_allSome_map hfs hf
    cases v <;> cases hv
    exact hi _

/-- **C08 (a metric payload is a JSON text, or fails).**  For every run id, every name and scope (any bytes), every
number of rows in any order: if `MetricTable.CollectorJSON` produces bytes at all (no NaN / infinity, see
`C08_metrics_nonfinite_fails`), they are generated by the JSON grammar. -/
theorem C08_metrics_payload_is_json (leaf : JBytes → Prop) (hs : ∀ t, IsStringToken t → leaf t)
    (hi : ∀ i : Int, leaf (bs (toString i)))
    (hk1 : IsStringToken (bs "\"name\"")) (hk2 : IsStringToken (bs "\"scope\""))
    (runId : JBytes) (start stop : Int) (rows : List MRow) (b : JBytes)
    (h : metricsPayload runId start stop rows = some b) : IsJson leaf b := by
  rw [metricsPayload_eq] at h
  obtain ⟨ts, hts, rfl⟩ := Option.map_eq_some_iff.mp h
  refine render_isJson leaf _ ⟨hs _ (C08_appendString_valid runId), hi start, hi stop, ?_, trivial⟩
  exact (wellFormedList_iff leaf _).mpr fun t ht =>
    (mem_of_allSome_map hts ht).elim fun _ hr => MRow.tree_wellFormed leaf hs hi hk1 hk2 hr.2

/-- **C08 (log payload shape).**  `[{"common": {"attributes": L},"logs": [fragments of at least 4 bytes…]}]` — in
particular a skipped (short) event never leaves a stray comma behind, wherever it stood. -/
theorem C08_log_payload_shape (labels : JBytes) (events : List JBytes) :
    logPayload labels events =
      bs "[{\"common\": {\"attributes\": " ++ labels ++ bs "},\"logs\": " ++
      (JV.arr ((events.filter (fun e => e.length ≥ 4)).map .tok)).render ++ bs "}]" := by
  simp only [logPayload, render_arr, render_tok, List.map_map, Function.comp_def, List.map_id', List.append_assoc]

/-- the literal pieces of the log payload split as `C08_log_payload_is_json` assumes (`hsplit`, `hsplit2`, `hsplit3`) (evaluation, as for the keys) -/
def logLiteralsOk : Bool :=
  bs "[{\"common\": {\"attributes\": " == bs "[" ++ (bs "{" ++ (bs "\"common\"" ++ (bs ": " ++ (bs "{" ++ (bs "\"attributes\"" ++ bs ": "))))) &&
  bs "},\"logs\": " == bs "}" ++ (bs "," ++ (bs "\"logs\"" ++ bs ": ")) && bs "}]" == bs "}" ++ bs "]"
#guard logLiteralsOk

/-- **C08 (the log payload is a JSON text).**  `[{"common": {"attributes": L},"logs": [...]}]` with the labels object `L`
and every forwarded event a JSON value; events shorter than 4 bytes are skipped wherever they stand, and no separator
is left behind. -/
theorem C08_log_payload_is_json (leaf : JBytes → Prop)
    (hk1 : IsStringToken (bs "\"common\"")) (hk2 : IsStringToken (bs "\"attributes\"")) (hk3 : IsStringToken (bs "\"logs\""))
    (hsplit : bs "[{\"common\": {\"attributes\": " = bs "[" ++ (bs "{" ++ (bs "\"common\"" ++ (bs ": " ++ (bs "{" ++ (bs "\"attributes\"" ++ bs ": "))))))
    (hsplit2 : bs "},\"logs\": " = bs "}" ++ (bs "," ++ (bs "\"logs\"" ++ bs ": ")))
    (hsplit3 : bs "}]" = bs "}" ++ bs "]")
    (labels : JBytes) (hl : leaf labels) (events : List JBytes) (he : ∀ e ∈ events, leaf e) :
    IsJson leaf (logPayload labels events) := by
  have harr : IsJson leaf (JV.arr ((events.filter (fun e => e.length ≥ 4)).map .tok)).render :=
    render_isJson leaf _ ((wellFormedList_iff leaf _).mpr
      (List.forall_mem_map.mpr fun e hm => he e (List.mem_filter.mp hm).1))
  -- the derivation of `[{"common": {"attributes": L},"logs": [...]}]`, a blank after each `:`
  have := IsJson.arr (.one (.obj (.consSp hk1 (.obj (.oneSp hk2 (.tok hl))) (.oneSp hk3 harr))))
  rw [C08_log_payload_shape, hsplit, hsplit2, hsplit3]
  -- the same bytes up to the bracketing of `++`
  refine cast (congrArg _ ?_) this
  ac_rfl

/-- **C08 (the label object of the log payload is a JSON object).**  For every label list the agent sends — valid and
invalid labels in any order, repeated types — the `"attributes"` value is `{}` or a well-formed object of string members:
no separator is written for a label that is left out. -/
theorem C08_log_labels_object_is_json (leaf : JBytes → Prop) (hs : ∀ t, IsStringToken t → leaf t)
    (enc : JBytes → JBytes) (henc : ∀ s, IsStringToken (enc s)) (ls : List (JBytes × JBytes)) :
    IsJson leaf (logLabelsObject enc ls) := by
  -- for any list of labels (`logLabelsObject` renders the sorted, de-duplicated one, or none)
  have key (m : List (JBytes × JBytes)) :
      IsJson leaf (bs "{" ++ joinWith (bs ",") (m.map fun kv => enc kv.1 ++ bs ":" ++ enc kv.2) ++ bs "}") := by
    have := render_isJson leaf (JV.obj (m.map fun kv => (enc kv.1, JV.tok (enc kv.2))))
      ((wellFormedMembers_iff leaf _).mpr (List.forall_mem_map.mpr fun kv _ => ⟨henc _, hs _ (henc _)⟩))
    simpa only [render_obj, List.map_map, Function.comp_def, render_tok] using this
  exact key _

/-- one invalid label discards the whole list (`SetLogForwardingLabels`), so the object is then empty -/
theorem C08_log_labels_invalid_discards_all (enc : JBytes → JBytes) (ls : List (JBytes × JBytes))
    (h : ∃ l ∈ ls, l.1 = [] ∨ l.2 = []) : logLabelsObject enc ls = bs "{" ++ bs "}" := by
  obtain ⟨l, hl, hbad⟩ := h
  have : ls.any (fun l => l.1.isEmpty || l.2.isEmpty) = true := by
    rw [List.any_eq_true]
    refine ⟨l, hl, ?_⟩
    rcases hbad with h | h <;> simp [h]
  simp [logLabelsObject, logLabelsKept, this, joinWith]

/-! ## Ties to the current source: the functions transcribed by the model have not changed since they were reviewed (`Props/Reviewed.lean`) -/

/-- **C08 (tie).**  `setLogForwardingLabels`: one invalid label discards the list. -/
theorem C08_set_labels_source_tied : Gen.Skeleton.setLogForwardingLabels = Reviewed.setLogForwardingLabels := rfl

/-- **C08 (tie).**  `logCollectorJSON`: labels through a map and encoding/json; short events skipped; separators between written events only. -/
theorem C08_log_json_source_tied : Gen.Skeleton.logCollectorJSON = Reviewed.logCollectorJSON := rfl

