import NrDaemon.Model.Race
import NrDaemon.Gen.Ownership
/-!
  C17 — the worker is free of data races: the ownership discipline implies race freedom.
-/

def isAccOn (t : List REv) (i : Nat) (x : Loc) : Prop := ∃ g w, t[i]? = some (.acc g x w)

/-- `e` vouches for the owner: an event of the owning goroutine, or the send the location travels with -/
def Owner.seenAt : Owner → REv → Prop
  | .by g, e => e.gid = g
  | .inFlight m, e => ∃ g xs, e = .send g m xs

/-- everything that touched `x` so far is, or happens before, an event that vouches for its present owner -/
def OwnInv (t : List REv) (k : Nat) (o : Loc → Owner) : Prop :=
  ∀ x i, i < k → isAccOn t i x → ∃ a e, a < k ∧ t[a]? = some e ∧ (o x).seenAt e ∧ (i = a ∨ HB t i a)

theorem stepOwn_acc {o o' : Loc → Owner} {g : Gid} {x : Loc} {w : Bool} (h : stepOwn o (.acc g x w) = some o') :
    o x = .by g ∧ o' = o := by
  simp only [stepOwn] at h; split at h
  · next hox => cases h; exact ⟨hox, rfl⟩
  · cases h

theorem ownAt_succ {o0 o : Loc → Owner} {t : List REv} {k : Nat} {e : REv} (he : t[k]? = some e)
    (h : ownAt o0 t (k + 1) = some o) : ∃ o', ownAt o0 t k = some o' ∧ stepOwn o' e = some o := by
  unfold ownAt at h
  cases ho' : ownAt o0 t k with
  | none => simp [ho'] at h
  | some o' => rw [ho', he] at h; exact ⟨o', rfl, h⟩

/-- one event of a disciplined trace: the owner of `x` stays, or the event vouches for the new owner and comes after
everything that vouched for the old one (program order for a send, the message edge for a receive) -/
theorem stepOwn_seen {t : List REv} {k : Nat} {e : REv} {o' o : Loc → Owner} (he : t[k]? = some e)
    (h : stepOwn o' e = some o) (x : Loc) :
    o x = o' x ∨ ((o x).seenAt e ∧ ∀ a ea, a < k → t[a]? = some ea → (o' x).seenAt ea → HB t a k) := by
  cases e with
  | acc g y w => exact .inl (congrFun (stepOwn_acc h).2 x)
  | send g m xs =>
    simp only [stepOwn] at h; split at h
    · next hall =>
      cases h
      by_cases hx : x ∈ xs
      · have hox : o' x = .by g := by simpa using List.all_eq_true.mp hall x hx
        simp only [hx, if_true, hox]
        exact .inr ⟨⟨g, xs, rfl⟩, fun a ea ha hea hg => HB.po ha hea he hg⟩
      · simp [hx]
    · cases h
  | recv g m =>
    simp only [stepOwn] at h; cases h
    by_cases hox : o' x = .inFlight m
    · simp only [hox, if_true]
      exact .inr ⟨rfl, fun a ea ha hea ⟨gs, xs, hs⟩ => HB.msg ha (hs ▸ hea) he⟩
    · simp [hox]

theorem ownInv_all (o0 : Loc → Owner) (t : List REv) :
    ∀ k o, k ≤ t.length → ownAt o0 t k = some o → OwnInv t k o := by
  intro k
  induction k with
  | zero => intro o _ _ x i hi; exact absurd hi (Nat.not_lt_zero i)
  | succ k ih =>
    intro o hk ho x i hi hacc
    have he : t[k]? = some t[k] := List.getElem?_eq_getElem hk
    obtain ⟨o', ho', hstep⟩ := ownAt_succ he ho
    rcases Nat.lt_succ_iff_lt_or_eq.mp hi with hik | rfl
    · obtain ⟨a, ea, ha, hea, hs, hhb⟩ := ih o' (Nat.le_of_succ_le hk) ho' x i hik hacc
      rcases stepOwn_seen he hstep x with hx | ⟨hs', hb⟩
      · exact ⟨a, ea, Nat.lt_succ_of_lt ha, hea, hx ▸ hs, hhb⟩
      · -- ownership moved at event `k`: `k` vouches for the new owner, and every earlier voucher happens before `k`
        exact ⟨k, _, Nat.lt_succ_self k, he, hs', .inr (hhb.elim (· ▸ hb a ea ha hea hs) (HB.trans · (hb a ea ha hea hs)))⟩
    · -- the access itself: by the owner
      obtain ⟨g, w, hacc⟩ := hacc
      rw [he] at hacc
      rw [Option.some.inj hacc] at hstep he
      obtain ⟨hox, rfl⟩ := stepOwn_acc hstep
      exact ⟨i, _, Nat.lt_succ_self i, he, by rw [hox]; rfl, .inl rfl⟩

theorem ownAt_mono {o0 : Loc → Owner} {t : List REv} {n : Nat} (h : (ownAt o0 t n).isSome) :
    ∀ k, k ≤ n → (ownAt o0 t k).isSome := by
  intro k hk
  induction hk with
  | refl => exact h
  | step _ ih =>
    apply ih
    unfold ownAt at h
    split at h <;> simp_all

/-- **C17 (the ownership discipline orders every pair of accesses, in every interleaving).**  In any trace — any number
of goroutines, any interleaving, any pattern of messages — that obeys the ownership rule, any two accesses to the same
location are ordered by happens-before (program order and message edges only).  In particular no two conflicting accesses
are concurrent: the trace has no data race. -/
theorem C17_disciplined_race_free (o0 : Loc → Owner) (t : List REv) (hd : disciplined o0 t = true)
    (i j : Nat) (hij : i < j) (x : Loc) (hi : isAccOn t i x) (hj : isAccOn t j x) : HB t i j := by
  -- of the two halves of `disciplined` only the first is used (every event obeys the ownership rule); that messages are fresh is
  -- what makes `HB.msg` pair a receive with its send, and is not needed to order two accesses
  simp only [disciplined, Bool.and_eq_true] at hd
  obtain ⟨gj, wj, hjacc⟩ := hj
  have hjlt : j < t.length := (List.getElem?_eq_some_iff.mp hjacc).1
  -- ownership after event j, hence just before it, and the rule at event j: the accessor owns `x`
  obtain ⟨o1, ho1⟩ := Option.isSome_iff_exists.mp (ownAt_mono hd.1 (j + 1) hjlt)
  obtain ⟨o, ho, hstep⟩ := ownAt_succ hjacc ho1
  have hinv := ownInv_all o0 t j o (Nat.le_of_lt hjlt) ho
  have hown : o x = .by gj := (stepOwn_acc hstep).1
  obtain ⟨a, ea, ha, hea, hs, hhb⟩ := hinv x i hij hi
  rw [hown] at hs
  exact hhb.elim (· ▸ HB.po ha hea hjacc hs) (HB.trans · (HB.po ha hea hjacc hs))

/-- a race: two accesses to one location, one of them a write, not ordered either way -/
def isRace (t : List REv) (i j : Nat) : Prop :=
  ∃ x g g' w w', t[i]? = some (.acc g x w) ∧ t[j]? = some (.acc g' x w') ∧ (w = true ∨ w' = true) ∧
    ¬ HB t i j ∧ ¬ HB t j i

theorem C17_no_race (o0 : Loc → Owner) (t : List REv) (hd : disciplined o0 t = true) (i j : Nat) (hne : i ≠ j) :
    ¬ isRace t i j := by
  intro ⟨x, g, g', w, w', hi, hj, _, h1, h2⟩
  rcases Nat.lt_or_gt_of_ne hne with h | h
  · exact h1 (C17_disciplined_race_free o0 t hd i j h x ⟨g, w, hi⟩ ⟨g', w', hj⟩)
  · exact h2 (C17_disciplined_race_free o0 t hd j i h x ⟨g', w', hj⟩ ⟨g, w, hi⟩)

/-! ## Sanity: the discipline accepts the worker's hand-over patterns and rejects the shutdown-path mutation -/

/-- processor (goroutine 0) fills a container (location 7), hands it to a sender goroutine (1) with message 100,
which reads it, while the processor goes on with a fresh container (location 8) -/
def handOver : List REv :=
  [.acc 0 7 true, .send 0 100 [7], .acc 0 8 true, .recv 1 100, .acc 1 7 false, .acc 0 8 true]

example : disciplined (fun _ => .by 0) handOver = true := by decide +kernel

/-- `CleanExit` on the signal goroutine (2) writing a processor field (location 3) that a listener goroutine (1) reads,
with no message between them: rejected -/
def shutdownMutation : List REv :=
  [.acc 1 3 false, .acc 2 3 true]

example : disciplined (fun x => if x = 3 then .by 1 else .by 0) shutdownMutation = false := by decide +kernel

/-! ## The regenerated tie: who touches the Processor's fields -/

def inter (a b : List String) : List String := a.filter (fun x => b.contains x)

/-- **C17 (regenerated from the current processor.go): only the processor goroutine touches processor state.**  Of the
methods of `Processor` that run on other goroutines (the `AgentDataHandler` methods on listener goroutines, `CleanExit`
and `quit` on the signal goroutine): none assigns a field that another of them reads or assigns; and one that assigns a
field, reads a field the processor goroutine assigns, or calls one of the processor goroutine's methods does so only
after sending on `quitChan` as its first statement — the message that ends `Run` and hands the processor's state over
(`C17_disciplined_race_free` with that send/receive pair as the message edge). -/
theorem C17_processor_ownership :
    (Gen.Ownership.outside.all (fun o =>
      Gen.Ownership.outside.all (fun o' =>
        o.method == o'.method || (inter o.writes (o'.reads ++ o'.writes)).isEmpty))) = true ∧
    (Gen.Ownership.outside.all (fun o =>
      (o.writes.isEmpty && (inter o.reads Gen.Ownership.runSideWrites).isEmpty && o.callsRunSide.isEmpty) ||
        o.first == "send:p.quitChan")) = true ∧
    Gen.Ownership.runSideMethods.contains "Run" = true := by
  decide +kernel
