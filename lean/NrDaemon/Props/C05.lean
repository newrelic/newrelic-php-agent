import NrDaemon.Lemmas.Limits
import NrDaemon.Lemmas.Metrics
import NrDaemon.Props.C06
import NrDaemon.Lemmas.AppLimit
import NrDaemon.Props.Tied
import NrDaemon.Gen.Skeleton
/-!
  C05 — buffers are bounded by the negotiated capacities and counted exactly.
-/
open Gen.Limits GoHeap

/-- **C05 (effective capacity = min(daemon maximum, collector limit)).**  For each event category the negotiated
limit is the collector's when present, non-negative and not above the maximum; the maximum when absent or above;
and a negative value makes the connect reply fail. -/
theorem C05_limits_negotiated (raw : Option Int) (rate dl dr : Nat) :
    (raw = none → getEventConfig raw rate dl dr = some ⟨dl, dr⟩) ∧
    (∀ l, raw = some l → l < 0 → getEventConfig raw rate dl dr = none) ∧
    (∀ l, raw = some l → 0 ≤ l → getEventConfig raw rate dl dr = some ⟨min l dl, rate⟩) := by
  refine ⟨fun h => by subst h; rfl, fun l h hl => by subst h; simp [getEventConfig, hl], fun l h hl => ?_⟩
  subst h
  simp only [getEventConfig, Int.not_lt.mpr hl, if_false]
  congr 2
  split <;> omega

/-- every negotiated limit lies between 0 and the daemon maximum of its category -/
theorem C05_negotiated_in_range (r : RawReply) (n : Negotiated) (h : negotiate r = some n) (hp : r.ehcPresent = true)
    (hs : r.sehcPresent = true) :
    0 ≤ n.cfgs.err.limit ∧ n.cfgs.err.limit ≤ MaxErrorEvents ∧
    0 ≤ n.cfgs.txn.limit ∧ n.cfgs.txn.limit ≤ MaxTxnEvents ∧
    0 ≤ n.cfgs.custom.limit ∧ n.cfgs.custom.limit ≤ MaxCustomMaxEvents ∧
    0 ≤ n.cfgs.span.limit ∧ n.cfgs.span.limit ≤ MaxSpanMaxEvents ∧
    0 ≤ n.cfgs.log.limit ∧ n.cfgs.log.limit ≤ MaxLogMaxEvents := by
  have ⟨⟨e1, e2⟩, ⟨t1, t2⟩, ⟨c1, c2⟩, ⟨s1, s2⟩, ⟨l1, l2⟩⟩ :=
    negotiate_cfgs (P := fun dl c => 0 ≤ c.limit ∧ c.limit ≤ dl) h (fun dl => ⟨Int.le_refl 0, Int.natCast_nonneg dl⟩)
      fun _ _ _ _ hc => ⟨(getEventConfig_some hc).1, (getEventConfig_some hc).2.1⟩
  exact ⟨e1, e2, t1, t2, c1, c2, s1, s2, l1, l2⟩

/-- **C05 (advertised limits)**: the daemon maxima, lowered to the agent's span, log and custom settings when
those are within `[0, max)`. -/
theorem C05_advertised (span log custom : Int) :
    let a := newHarvestLimits span log custom
    a.err.limit = MaxErrorEvents ∧ a.txn.limit = MaxTxnEvents ∧
    a.span.limit = (if 0 ≤ span ∧ span < MaxSpanMaxEvents then span else MaxSpanMaxEvents) ∧
    a.log.limit = (if 0 ≤ log ∧ log < MaxLogMaxEvents then log else MaxLogMaxEvents) ∧
    a.custom.limit = (if 0 ≤ custom ∧ custom < MaxCustomMaxEvents then custom else MaxCustomMaxEvents) := by
  -- the model tests `agent < max ∧ agent ≥ 0`, the statement `0 ≤ agent ∧ agent < max`
  have lower : ∀ (agent : Int) (mx : Nat),
      (if agent < mx ∧ agent ≥ 0 then agent else (mx : Int)) = if 0 ≤ agent ∧ agent < mx then agent else mx :=
    fun _ _ => ite_congr (propext And.comm) (fun _ => rfl) (fun _ => rfl)
  exact ⟨rfl, rfl, lower _ _, lower _ _, lower _ _⟩

/-- a negative agent limit (out-of-range conversion) never produces a negative capacity -/
theorem C05_log_cap_never_negative (agent collector : Int) (period : Nat) (hc : 0 ≤ collector) :
    0 ≤ finalLogLimit agent collector period := by
  unfold finalLogLimit
  simp only
  split <;> omega

/-- **C05 (log cap)**: the final log limit is the smaller of the collector's limit and the agent's limit scaled
to the collector's report period; it is never negative when the collector's limit is not. -/
theorem C05_log_cap (agent collector : Int) (period : Nat) (ha : 0 ≤ agent) (hc : 0 ≤ collector) :
    finalLogLimit agent collector period = min (scaledAgentLogLimit agent period) collector ∧
    0 ≤ finalLogLimit agent collector period := by
  refine ⟨?_, C05_log_cap_never_negative agent collector period hc⟩
  have hs : 0 ≤ scaledAgentLogLimit agent period :=
    Int.tdiv_nonneg (Int.mul_nonneg ha (Int.natCast_nonneg _)) (Int.natCast_nonneg _)
  unfold finalLogLimit
  simp only
  split <;> omega

/-- **C05 (event reservoirs are bounded and counted)**: after any history, the reservoir holds at most its capacity. -/
theorem C05_reservoir_bound (K : Nat) (ops : List ResOp) : (runRes K ops).size ≤ K := by
  obtain ⟨_, _, _, hs⟩ := C06_reservoir_topk K ops
  exact hs ▸ Nat.min_le_right _ _

/-- `numSeen` counts every offer (`Res.add`) and adds up across merges -/
theorem C05_reservoir_seen_add (r : Res) (e : Ev) : (r.add e).seen = r.seen + 1 := rfl

theorem C05_reservoir_seen_merge (r o : Res) : (r.merge o).seen = r.seen + o.seen := rfl

/-- **C05 (metric table: refusal)**: a new unforced metric offered to a full table is refused, counted once in
`numDropped`, and changes nothing else. -/
theorem C05_metrics_refuse (t : MTable) (k : MKey) (m : Metric)
    (hnew : t.find k = none) (hfull : t.count ≥ t.max) (hu : m.forced = false) :
    t.mergeMetric k m = { t with dropped := t.dropped + 1 } := by
  unfold MTable.mergeMetric
  simp [hnew, hfull, hu]

/-- **C05 (metric table: admission)**: in every other case (known key, room, or forced) the metric is recorded,
nothing is counted as dropped, and `count` stays the number of entries. -/
theorem C05_metrics_admit (t : MTable) (k : MKey) (m : Metric) (hc : t.count = t.ms.length)
    (h : t.count < t.max ∨ m.forced = true ∨ (t.find k).isSome) :
    let t' := t.mergeMetric k m
    t'.dropped = t.dropped ∧ (t'.find k).isSome ∧ t'.count = t'.ms.length := by
  rw [MTable.mergeMetric_eq_admitted t k m h]
  refine ⟨?_, ?_, ?_⟩
  · unfold MTable.mergeAdmitted; split <;> rfl
  · rw [MTable.find_mergeAdmitted]; simp
  · unfold MTable.mergeAdmitted; split <;> simp [hc, updAssoc]

/-- unforced entries never exceed the capacity: an insertion that adds an unforced entry happens below it -/
theorem C05_metrics_unforced_bound (t : MTable) (k : MKey) (m : Metric) (hu : m.forced = false)
    (hgrow : (t.mergeMetric k m).count = t.count + 1) : t.count < t.max := by
  unfold MTable.mergeMetric at hgrow
  cases hf : t.find k with
  | some o => simp [hf] at hgrow
  | none =>
    simp only [hf, hu] at hgrow
    by_cases hfull : t.count ≥ t.max
    · simp [hfull] at hgrow
    · omega

/-- the fixed capacities (regenerated from limits.go) are the documented ones -/
theorem C05_documented_capacities :
    MaxMetrics = 2000 ∧ MaxErrors = 20 ∧ MaxSlowSQLs = 10 ∧ MaxRegularTraces = 1 ∧ MaxForcePersistTraces = 10 ∧
    MaxSyntheticsTraces = 20 ∧ AppLimit = 250 := by decide

/-! ## The application cap over all histories of the processor loop (`Lemmas/AppLimit.lean`) -/

/-- **C05 (never more than 250 applications, all histories).**  Start the processor with no application; after any
sequence of agent queries (known and unknown applications, with or without run ids), transactions, harvest triggers,
replies of any kind in any order and clock advances, every list of pairwise distinct applications the processor knows
has at most `AppLimit` (= 250, regenerated from limits.go) entries.  Forgotten (inactive) applications free their
place. -/
theorem C05_app_limit_all_histories (s : PState) (es : List PEvent) (h0 : s.apps = []) (l : List String)
    (hnd : l.Nodup) (hk : ∀ h ∈ l, (appCfg (s.runEvents es) h).isSome) : l.length ≤ 250 := by
  have hb : AppsBounded s := fun l' ht => by
    have := tracked_le_length s l' ht
    rw [h0] at this
    exact Nat.le_trans this (Nat.zero_le _)
  exact runEvents_inv (fun s e => (step_moves s e).appsBounded) s es hb l ⟨hnd, hk⟩

/-- … and the cap is not vacuous: below it an unknown application is admitted, at it the query changes nothing -/
theorem C05_app_limit_gate (s : PState) (rid : Option String) (cfg : AppCfg)
    (hn : getApp s cfg.handle = none) (hl : s.apps.length ≥ 250) : (processAppInfo s rid cfg).1 = s := by
  rcases processAppInfo_valid_or s rid cfg with h | h <;> rw [h]
  rw [processAppInfo_new hn, if_pos (show s.apps.length ≥ AppLimit from hl)]

/-- **C05 (tie: the table-full test is the code's).** -/
theorem C05_table_full_tied (t : MTable) :
    decide (t.count ≥ t.max) = Gen.Decisions.tableFull (t.count : Int) (t.max : Int) := by
  simp [Gen.Decisions.tableFull]

/-- **C05 (tie: the negotiation functions are the code's).**  The model's `getEventConfig`, `newHarvestLimits` and
`finalLogLimit` equal `getEventConfig`, `NewHarvestLimits` and `processLogEventLimits` as translated (symbolic execution of
the current source by the extractor, `Gen/Negotiation.lean`) for all inputs — so `C05_limits_negotiated`,
`C05_advertised`, `C05_log_cap` … are statements about the functions the daemon runs. -/
theorem C05_negotiation_tied :
    (∀ (raw : Option Int) (cr dl dr : Nat),
      match getEventConfig raw cr dl dr with
      | none => (Gen.Negotiation.getEventConfig cr dl dr (raw.getD 0) raw.isSome).2.2 = true
      | some c => Gen.Negotiation.getEventConfig cr dl dr (raw.getD 0) raw.isSome = (c.limit, (c.period : Int), false)) ∧
    (∀ span log custom : Int,
      Gen.Negotiation.newHarvestLimits custom log span true =
        ((newHarvestLimits span log custom).err.limit, (newHarvestLimits span log custom).txn.limit,
         (newHarvestLimits span log custom).custom.limit, (newHarvestLimits span log custom).span.limit,
         (newHarvestLimits span log custom).log.limit)) ∧
    (∀ (agent collectorLimit : Int) (collectorPeriod : Nat),
      Gen.Negotiation.processLogEventLimits true true collectorLimit (collectorPeriod : Int) true agent =
        finalLogLimit agent collectorLimit collectorPeriod) :=
  ⟨tied_getEventConfig, fun s l c => (tied_newHarvestLimits s l c).1, fun a c p => (tied_processLogEventLimits a c p).1⟩

/-! ## The fixed capacities as bounds over every offer sequence (corollaries of the C06 theorems) -/

/-- **C05 (never more than 20 errors, 1/10/20 traces, 10 slow SQLs).**  For every sequence of offers, in any order and
with any priorities / durations: the error heap holds exactly `min (offers) 20`, each trace heap `min (offers) K` for its
own K ∈ {1, 10, 20}, and the slow-SQL collection at most 10 statements, each id once. -/
theorem C05_fixed_capacity_bounds :
    (∀ es : List Ev, ∃ a, runErr MaxErrors es = some a ∧ a.size = min es.length 20) ∧
    (∀ es : List Ev, ∃ a, runTrace MaxRegularTraces es = some a ∧ a.size = min es.length 1) ∧
    (∀ es : List Ev, ∃ a, runTrace MaxForcePersistTraces es = some a ∧ a.size = min es.length 10) ∧
    (∀ es : List Ev, ∃ a, runTrace MaxSyntheticsTraces es = some a ∧ a.size = min es.length 20) ∧
    (∀ obs : List Slow, (obs.foldl (slowObserve MaxSlowSQLs) []).length ≤ 10 ∧
      ((obs.foldl (slowObserve MaxSlowSQLs) []).map (·.id)).Nodup) := by
  have pos := C06_fixed_capacities_positive
  -- the first two conjuncts of each top-K theorem
  exact ⟨fun es => (C06_errors_topk MaxErrors pos.1 es).imp fun _ h => ⟨h.1, h.2.1⟩,
    fun es => (C06_traces_longest MaxRegularTraces pos.2.1 es).imp fun _ h => ⟨h.1, h.2.1⟩,
    fun es => (C06_traces_longest MaxForcePersistTraces pos.2.2.1 es).imp fun _ h => ⟨h.1, h.2.1⟩,
    fun es => (C06_traces_longest MaxSyntheticsTraces pos.2.2.2 es).imp fun _ h => ⟨h.1, h.2.1⟩,
    fun obs => ⟨(C06_slow_sql_topk MaxSlowSQLs obs).1, (C06_slow_sql_topk MaxSlowSQLs obs).2.1⟩⟩

/-- `processAppInfo` as last reviewed: a presented run id is confirmed iff the run is held; a known application only has its activity
refreshed; an unknown one is admitted only below `limits.AppLimit`; in every case the reply is built from the application's
state in a deferred function, which also considers a connect -/
def reviewedProcessAppInfo : List String := [
  "r := <*ast.CompositeLit>",
  "defer func(){if nil!=app {; r.State = app.state; if AppStateConnected==app.state {; r.ConnectReply = app.RawConnectReply; r.SecurityPolicies = app.RawSecurityPolicies; r.ConnectTimestamp = uint64(…); r.HarvestFrequency = uint16(…); r.SamplingTarget = uint16(…); }; }; m.ResultChan <- r; if nil!=app {; p.considerConnect(…); }}()",
  "if nil!=m.ID {",
  "if ok {",
  "r.RunIDValid = true",
  "return",
  "}",
  "}",
  "key := m.Info.Key(…)",
  "app = p.apps[key]",
  "if nil!=app {",
  "app.LastActivity = time.Now(…)",
  "return",
  "}",
  "numapps := len(…)",
  "if numapps>=limits.AppLimit {",
  "return",
  "}",
  "app = NewApp(…)",
  "p.apps[key] = app",
  "numapps = len(…)",
  "if numapps==limits.AppLimitNotifyHigh {",
  "}"
]

/-- **C05 / C03 (tie: the application table is maintained as the model says).** -/
theorem C05_appinfo_source_tied : Gen.Skeleton.processAppInfo = reviewedProcessAppInfo := rfl

/-! ## What is advertised at connect comes from the agent's description alone - at every connect -/

/-- a connect attempt starts from the application's description as it is (which never changes: `C04_identity_stable`) -/
theorem C05_attempt_carries_description (s : PState) (h : String) (app : AppM) (ha : getApp s h = some app) :
    ∀ r ∈ (considerConnect s h).2, r.payload = Payload.pre app.cfg ∧ r.app = h := by
  intro r hr
  obtain ⟨app', ha', _, _, _, hap, _, hp⟩ := considerConnect_reqs s h r hr
  obtain rfl : app = app' := Option.some.inj (ha.symm.trans ha')
  exact ⟨hp, hap⟩

/-- … and the connect request of that attempt carries the very same description: the limits it advertises
(`C05_advertised`: the daemon's maxima lowered to the agent's span, log and custom settings) therefore depend on the agent's
settings only — not on the limits or report periods negotiated for an earlier run of the application. -/
theorem C05_connect_carries_preconnect_description (s : PState) (r : Req) (o : Outcome) (host : String) :
    ∀ c ∈ (preconnectReply s r o host).2, ∃ cfg, r.payload = Payload.pre cfg ∧ c.payload = Payload.con cfg host ∧ c.cat = Cat.connect := by
  intro c hc
  unfold preconnectReply at hc
  split at hc
  · split at hc
    · next cfg hp =>
      simp only [List.mem_singleton] at hc
      subst hc
      exact ⟨cfg, hp, rfl, rfl⟩
    · simp at hc
  · simp at hc
