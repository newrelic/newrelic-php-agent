import NrDaemon.Props.Reviewed
import NrDaemon.Gen.Skeleton
import NrDaemon.Gen.Schema
import NrDaemon.Gen.Limits
/-!
  C15 — agent and daemon agree on the wire schema and shared limits.

  `Gen.Schema` is regenerated on every run from `protocol/flatbuffers/protocol.fbs`, from the generated Go
  accessors/builders in `daemon/internal/newrelic/protocol/*.go`, and from the agent's hand-kept enums in
  `axiom/nr_commands_private.h` / limits in `axiom/nr_limits.h`, `axiom/nr_app.h`.  The finite tables are compared by
  evaluation, so these are proofs about the three renderings as they are in the tree on this run.

  Comparing two string literals with `String.decEq` makes the kernel encode both to UTF-8 (about 10⁵ heartbeats for two
  of the C names below), so the long names are never compared that way: equal tables are equal by `rfl`, where literals
  are matched syntactically, and `x ∈ table` is shown by walking down the table until the head matches
  (`repeat constructor`: `List.Mem.head`, else `List.Mem.tail`).  Only the short schema table names are compared by
  evaluation (`decide +kernel`): by `fieldCount`, and in the coverage half of `C15_c_enums`.
-/
open Gen.Schema

def idx {α : Type} (l : List α) : List (α × Nat) := l.zip (List.range l.length)

/-- **C15 (daemon accessors).**  For every table, the Go accessor of the i-th schema field reads vtable offset
`4 + 2·i` (and is named after it). -/
theorem C15_go_accessors :
    goAccessors = fbsTablesCamel.map (fun t => (t.1, (idx t.2).map (fun f => (f.1, 4 + 2 * f.2)))) ∧
    fbsTablesCamel.map (fun t => (t.1, t.2.length)) = fbsTables.map (fun t => (t.1, t.2.length)) := ⟨by rfl, by rfl⟩

/-- **C15 (daemon builders).**  For every table, the Go builder `Add<Field>` writes slot `i` and `Start` reserves
exactly as many slots as the schema has fields. -/
theorem C15_go_builders :
    goSlots = fbsTablesCamel.map (fun t => (t.1, (idx t.2).map (fun f => (f.1, f.2)))) ∧
    goStart = fbsTables.map (fun t => (t.1, t.2.length)) := ⟨by rfl, by rfl⟩

/-- **C15 (struct layout).**  `MetricData` is laid out at 0, 8, …, 40, 48, 49 in the schema, in the daemon's
accessors and in the agent's offsets. -/
theorem C15_struct_layout :
    goStructs = fbsStructsCamel ∧ fbsStructsCamel.map (fun s => (s.1, s.2.map (·.2))) = fbsStructs.map (fun s => (s.1, s.2.map (·.2))) ∧
    fbsStructs = [("MetricData", [("count", 0), ("total", 8), ("exclusive", 16), ("min", 24), ("max", 32),
                                   ("sum_squares", 40), ("scoped", 48), ("forced", 49)])] ∧
    [("METRIC_DATA_VOFFSET_COUNT", 0), ("METRIC_DATA_VOFFSET_TOTAL", 8), ("METRIC_DATA_VOFFSET_EXCLUSIVE", 16),
     ("METRIC_DATA_VOFFSET_MIN", 24), ("METRIC_DATA_VOFFSET_MAX", 32), ("METRIC_DATA_VOFFSET_SOS", 40),
     ("METRIC_DATA_VOFFSET_SCOPED", 48), ("METRIC_DATA_VOFFSET_FORCED", 49)] ∈ cEnums :=
  ⟨rfl, rfl, rfl, by repeat constructor⟩

/-- the agent's name for each schema field, in schema order (hand-written expectation: the C names are not derivable
mechanically, e.g. `APP_DISPLAY_HOST`, `TRANSACTION_FIELD_LOG_LABELS`) -/
def cFieldNames : List (String × List String × String) := [
  ("Message", ["MESSAGE_FIELD_AGENT_RUN_ID", "MESSAGE_FIELD_DATA_TYPE", "MESSAGE_FIELD_DATA"], "MESSAGE_NUM_FIELDS"),
  ("App", ["APP_FIELD_LICENSE", "APP_FIELD_APPNAME", "APP_FIELD_AGENT_LANGUAGE", "APP_FIELD_AGENT_VERSION",
           "APP_FIELD_HIGH_SECURITY", "APP_FIELD_REDIRECT_COLLECTOR", "APP_FIELD_ENVIRONMENT", "APP_FIELD_SETTINGS",
           "APP_FIELD_LABELS", "APP_DISPLAY_HOST", "APP_SECURITY_POLICY_TOKEN", "APP_SUPPORTED_SECURITY_POLICIES", "APP_HOST",
           "APP_TRACE_OBSERVER_HOST", "APP_TRACE_OBSERVER_PORT", "APP_SPAN_QUEUE_SIZE", "APP_SPAN_EVENTS_MAX_SAMPLES_STORED",
           "APP_METADATA", "APP_LOG_EVENTS_MAX_SAMPLES_STORED", "APP_CUSTOM_EVENTS_MAX_SAMPLES_STORED", "APP_DOCKER_ID"],
   "APP_NUM_FIELDS"),
  ("AppReply", ["APP_REPLY_FIELD_STATUS", "APP_REPLY_FIELD_CONNECT_REPLY", "APP_REPLY_FIELD_SECURITY_POLICIES",
                "APP_REPLY_FIELD_CONNECT_TIMESTAMP", "APP_REPLY_FIELD_HARVEST_FREQUENCY", "APP_REPLY_FIELD_SAMPLING_TARGET"],
   "APP_REPLY_NUM_FIELDS"),
  ("Transaction", ["TRANSACTION_FIELD_NAME", "TRANSACTION_FIELD_URI", "TRANSACTION_FIELD_SYNTHETICS_RESOURCE_ID",
                   "TRANSACTION_FIELD_PID", "TRANSACTION_FIELD_TXN_EVENT", "TRANSACTION_FIELD_METRICS", "TRANSACTION_FIELD_ERRORS",
                   "TRANSACTION_FIELD_SLOW_SQLS", "TRANSACTION_FIELD_CUSTOM_EVENTS", "TRANSACTION_FIELD_TRACE",
                   "TRANSACTION_FIELD_ERROR_EVENTS", "TRANSACTION_FIELD_SAMPLING_PRIORITY", "TRANSACTION_FIELD_SPAN_EVENTS",
                   "TRANSACTION_FIELD_LOG_EVENTS", "TRANSACTION_FIELD_PHP_PACKAGES", "TRANSACTION_FIELD_LOG_LABELS"],
   "TRANSACTION_NUM_FIELDS"),
  ("Event", ["EVENT_FIELD_DATA"], "EVENT_NUM_FIELDS"),
  ("Error", ["ERROR_FIELD_PRIORITY", "ERROR_FIELD_DATA"], "ERROR_NUM_FIELDS"),
  ("Metric", ["METRIC_FIELD_NAME", "METRIC_FIELD_DATA"], "METRIC_NUM_FIELDS"),
  ("SlowSQL", ["SLOWSQL_FIELD_ID", "SLOWSQL_FIELD_COUNT", "SLOWSQL_FIELD_TOTAL_MICROS", "SLOWSQL_FIELD_MIN_MICROS",
               "SLOWSQL_FIELD_MAX_MICROS", "SLOWSQL_FIELD_METRIC", "SLOWSQL_FIELD_QUERY", "SLOWSQL_FIELD_PARAMS"], "SLOWSQL_NUM_FIELDS"),
  ("Trace", ["TRACE_FIELD_TIMESTAMP", "TRACE_FIELD_DURATION", "TRACE_FIELD_GUID", "TRACE_FIELD_FORCE_PERSIST", "TRACE_FIELD_DATA"],
   "TRACE_NUM_FIELDS"),
  ("SpanBatch", ["SPAN_BATCH_FIELD_COUNT", "SPAN_BATCH_FIELD_ENCODED"], "SPAN_BATCH_NUM_FIELDS")]

def fieldCount (t : String) : Nat := ((fbsTables.find? (·.1 == t)).map (·.2.length)).getD 0

/-- **C15 (agent field tables).**  For every table of the schema, the agent's enum block numbers the fields
0, 1, 2, … in schema order and its `*_NUM_FIELDS` equals the number of fields in the schema; every schema table is
covered. -/
theorem C15_c_enums :
    cFieldNames.all (fun e =>
      cEnums.contains ((idx e.2.1) ++ [(e.2.2, fieldCount e.1)]) && e.2.1.length == fieldCount e.1) = true ∧
    (fbsTables.map (·.1)).all (fun t => cFieldNames.any (·.1 == t)) = true := by
  have hn : ∀ e ∈ cFieldNames, e.2.1.length = fieldCount e.1 := by decide +kernel
  have hm : ∀ e ∈ cFieldNames, idx e.2.1 ++ [(e.2.2, e.2.1.length)] ∈ cEnums := by
    simp only [cFieldNames, List.forall_mem_cons, List.not_mem_nil, false_imp_iff, implies_true, and_true]
    and_intros <;> repeat constructor
  refine ⟨?_, by decide +kernel⟩
  simp only [List.all_eq_true, Bool.and_eq_true, List.contains_iff_mem, beq_iff_eq]
  exact fun e he => ⟨hn e he ▸ hm e he, hn e he⟩

/-- **C15 (union tags and enum values).**  Union member k has tag k+1 in the schema order, in the daemon's constants
and in the agent's; `AppStatus` has the same values on all three sides. -/
theorem C15_union_and_enum_values :
    fbsUnions = [("MessageBody", ["App", "AppReply", "Transaction", "SpanBatch"])] ∧
    [("MessageBodyNONE", 0), ("MessageBodyApp", 1), ("MessageBodyAppReply", 2), ("MessageBodyTransaction", 3),
     ("MessageBodySpanBatch", 4)].all (fun c => goConsts.contains c) = true ∧
    cEnums.contains [("MESSAGE_BODY_NONE", 0), ("MESSAGE_BODY_APP", 1), ("MESSAGE_BODY_APP_REPLY", 2),
                     ("MESSAGE_BODY_TXN", 3), ("MESSAGE_BODY_SPAN_BATCH", 4)] = true ∧
    fbsEnums = [("AppStatus", [("Unknown", 0), ("Disconnected", 1), ("InvalidLicense", 2), ("Connected", 3), ("StillValid", 4)])] ∧
    (fbsEnums.flatMap (fun e => e.2.map (fun m => (e.1 ++ m.1, m.2)))).all (fun c => goConsts.contains c) = true ∧
    cEnums.contains [("APP_STATUS_UNKNOWN", 0), ("APP_STATUS_DISCONNECTED", 1), ("APP_STATUS_INVALID_LICENSE", 2),
                     ("APP_STATUS_CONNECTED", 3), ("APP_STATUS_STILL_VALID", 4)] = true := by
  refine ⟨rfl, ?_, List.contains_iff_mem.2 (by repeat constructor), rfl, ?_, List.contains_iff_mem.2 (by repeat constructor)⟩
  · simp only [List.all_eq_true, List.contains_iff_mem, List.forall_mem_cons, List.not_mem_nil, false_imp_iff, implies_true, and_true]
    and_intros <;> repeat constructor
  · simp only [fbsEnums, List.flatMap_cons, List.flatMap_nil, List.map_cons, List.map_nil, List.append_nil, String.reduceAppend,
      List.all_eq_true, List.contains_iff_mem, List.forall_mem_cons, List.not_mem_nil, false_imp_iff, implies_true, and_true]
    and_intros <;> repeat constructor

/-- **C15 (shared limits).**  The limits documented as shared between agent and daemon have equal values. -/
theorem C15_shared_limits :
    cDefines.contains ("NR_MAX_ANALYTIC_EVENTS", Gen.Limits.MaxTxnEvents) = true ∧
    cDefines.contains ("NR_MAX_CUSTOM_EVENTS_MAX_SAMPLES_STORED", Gen.Limits.MaxCustomMaxEvents) = true ∧
    cDefines.contains ("NR_MAX_SPAN_EVENTS_MAX_SAMPLES_STORED", Gen.Limits.MaxSpanMaxEvents) = true ∧
    cDefines.contains ("NR_MAX_LOG_EVENTS_MAX_SAMPLES_STORED", Gen.Limits.MaxLogMaxEvents) = true ∧
    cDefines.contains ("NR_MAX_ERRORS", Gen.Limits.MaxErrors) = true ∧
    cDefines.contains ("NR_APP_LIMIT", Gen.Limits.AppLimit) = true := by
  simp only [List.contains_iff_mem]
  and_intros <;> repeat constructor


/-- **C15 (tie).**  `aggregateMetrics`: each metric of the vector is decoded with its own forced and scoped flags. -/
theorem C15_aggregate_metrics_source_tied : Gen.Skeleton.aggregateMetrics = Reviewed.aggregateMetrics := rfl
