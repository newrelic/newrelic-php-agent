import NrDaemon.Model.Config
import NrDaemon.Gen.Limits
import NrDaemon.Lemmas.Assoc
/-!
  C19 — settings resolve as command line over file over default, for all syntaxes.

  The model makes the structure explicit: an argument vector *denotes* a list of typed assignments
  (`flagAssign`, independent of the configuration assigned to; `--define` goes through the file lexer), a file text
  denotes a list of typed assignments (`textAssign`), and `configure` applies flags, then file, then flags again.
-/

/-- the value a list of assignments gives a field: the last assignment to it, if any -/
def lastVal (as : Assign) (f : Field) : Option CBytes := ((as.filter (·.1 == f)).getLast?).map (·.2)

theorem Cfg.get_set (c : Cfg) (f g : Field) (v : CBytes) : (c.set f v).get g = if g = f then v else c.get g := by
  unfold Cfg.get Cfg.set
  rw [List.find?_cons]
  by_cases h : g = f
  · rw [if_pos h, h, beq_self_eq_true]; rfl
  · rw [if_neg h, beq_false_of_ne (Ne.symm h), find?_key_filter, if_neg h]

theorem lastVal_cons (a : Field × CBytes) (as : Assign) (f : Field) :
    lastVal (a :: as) f = (lastVal as f).or (if a.1 = f then some a.2 else none) := by
  unfold lastVal
  by_cases h : a.1 = f <;> simp [h, List.getLast?_cons]

theorem applyAssign_get (as : Assign) (c : Cfg) (f : Field) :
    (applyAssign as c).get f = (lastVal as f).getD (c.get f) := by
  induction as generalizing c with
  | nil => rfl
  | cons a as ih =>
    rw [show applyAssign (a :: as) c = applyAssign as (c.set a.1 a.2) from rfl, ih, Cfg.get_set, lastVal_cons]
    have : f = a.1 ↔ a.1 = f := eq_comm
    cases lastVal as f <;> by_cases h : a.1 = f <;> simp [h, this]

theorem addressRule_get (c : Cfg) (sock : CBytes) (f : Field) (hf : f ≠ .addr) : (addressRule c sock).1.get f = c.get f := by
  fun_cases addressRule c sock <;> first | rfl | exact (Cfg.get_set ..).trans (if_neg hf)

/-- **C19 (precedence).**  When the new-style resolution succeeds, every setting other than the listen address has
the value of the last command-line assignment to it (in ANY spelling: `--flag value`, `--flag=value`, `-flag …`,
`--define key=value`), if the command line assigns it at all; otherwise the value of the last assignment in the
configuration file, if the file assigns it; otherwise the built-in default. -/
theorem C19_precedence (args : List String) (file : CBytes → Option CBytes) (sock : CBytes) (f : Field)
    (hf : f ≠ .addr)
    (h1 : (flagAssign daemonFlags (args.length + 1) args).2 = true)
    (text : CBytes)
    (hfile : parseConfigFile file (flagParse daemonFlags (args.length + 1) args defaultCfg).1
              = (applyAssign (textAssign text).1 (flagParse daemonFlags (args.length + 1) args defaultCfg).1, true)) :
    let A := (flagAssign daemonFlags (args.length + 1) args).1
    let F := (textAssign text).1
    (configure args file sock).ok = true ∧ (configure args file sock).legacy = false ∧
    (configure args file sock).cfg.get f =
      match lastVal A f with
      | some v => v
      | none => match lastVal F f with
        | some v => v
        | none => defaultCfg.get f := by
  simp only
  unfold configure
  simp only [flagParse, h1, Bool.not_true, Bool.false_eq_true, if_false] at hfile ⊢
  rw [hfile]
  simp only [Bool.not_true, Bool.false_eq_true, if_false]
  refine ⟨trivial, trivial, ?_⟩
  rw [addressRule_get _ _ _ hf, applyAssign_get, applyAssign_get, applyAssign_get]
  cases lastVal (flagAssign daemonFlags (args.length + 1) args).1 f with
  | some v => rfl
  | none => cases lastVal (textAssign text).1 f <;> rfl

/-- **C19 (listen address).**  The listen address is taken from `--address` (or the file's `address`), else from the
port setting, else the platform default; giving both port and address yields a warning and the address wins. -/
theorem C19_listen_address (c : Cfg) (sock : CBytes) :
    let r := addressRule c sock
    (c.get .addr ≠ [] → r.1.get .addr = c.get .addr ∧ (r.2 = true ↔ c.get .port ≠ [])) ∧
    (c.get .addr = [] → c.get .port ≠ [] → r.1.get .addr = c.get .port ∧ r.2 = false) ∧
    (c.get .addr = [] → c.get .port = [] → r.1.get .addr = sock ∧ r.2 = false) := by
  simp only [addressRule]
  by_cases ha : c.get .addr = [] <;> by_cases hp : c.get .port = [] <;> simp [ha, hp, Cfg.get_set]

/-- **C19 (unknown keys are ignored, malformed values are errors).** -/
theorem C19_unknown_ignored (kw v : CBytes) (rest : List (CBytes × CBytes))
    (h : fileKeyword.find? (·.1 == str kw) = none) : fileAssign ((kw, v) :: rest) = fileAssign rest := by
  simp [fileAssign, h]

theorem C19_malformed_error (kw v : CBytes) (rest : List (CBytes × CBytes)) (f : Field) (name : String)
    (h : fileKeyword.find? (·.1 == str kw) = some (name, f)) (hv : convert f.kind true v = none) :
    (fileAssign ((kw, v) :: rest)).2 = false := by
  simp [fileAssign, h, hv]

/-- **C19 (the lexer is total).**  `lexAll` is a total function of the byte string (Lean's termination check is the
proof that it neither loops nor gets stuck); it always returns one of the two outcomes. -/
theorem C19_lexer_total (input : CBytes) : (∃ as, lexAll input = .ok as) ∨ (∃ as, lexAll input = .err as) := by
  cases h : lexAll input with
  | ok as => exact Or.inl ⟨as, rfl⟩
  | err as => exact Or.inr ⟨as, rfl⟩

/-! sanity tests (evaluated): the three sources, one setting each way -/
#guard ((configure ["--pidfile=/cmd", "-c", "F"] (fun p => if p == "F".toUTF8.toList then some "pidfile = /file\nlogfile='/f.log'\n".toUTF8.toList else none) "@s".toUTF8.toList).cfg.get .pidfile) == "/cmd".toUTF8.toList
#guard ((configure ["--pidfile=/cmd", "-c", "F"] (fun p => if p == "F".toUTF8.toList then some "pidfile = /file\nlogfile='/f.log'\n".toUTF8.toList else none) "@s".toUTF8.toList).cfg.get .logfile) == "/f.log".toUTF8.toList
#guard ((configure ["--define", "port=9"] (fun _ => none) "@s".toUTF8.toList).cfg.get .addr) == "9".toUTF8.toList
#guard (flagAssign daemonFlags 3 ["--pidfile", "/x"]).1 == (flagAssign daemonFlags 3 ["-pidfile=/x"]).1
#guard (flagAssign daemonFlags 3 ["--pidfile", "/x"]).1 == (flagAssign daemonFlags 3 ["--define", "pidfile = '/x'"]).1

/-- the default of `app_timeout` in the model is `limits.DefaultAppTimeout` (regenerated) -/
theorem C19_app_timeout_default_tied : (DefaultAppTimeoutNs : Nat) = Gen.Limits.DefaultAppTimeout := by decide

/-- `app_timeout`: a bare number is milliseconds, units are those of `time.ParseDuration`, an empty or malformed value is an
error (evaluated instances of the model the engine compares with the real `Timeout.UnmarshalText`) -/
def timeoutExamplesOk : Bool :=
  parseTimeout "30".toUTF8.toList == some 30000000 && parseTimeout "45s".toUTF8.toList == some 45000000000 &&
  parseTimeout "1h30m".toUTF8.toList == some 5400000000000 && parseTimeout "".toUTF8.toList == none &&
  parseTimeout "5x".toUTF8.toList == none && parseTimeout "-5s".toUTF8.toList == some (-5000000000)
#guard timeoutExamplesOk

/-! ## Accepted time-outs fit a `time.Duration` -/

theorem parseGroups_le (fuel acc : Nat) (cs : List Char) (d : Nat) (h : parseGroups fuel acc cs = some d) : d ≤ 2 ^ 63 := by
  fun_induction parseGroups fuel acc cs
  -- the last group: the total `d` is returned only after the test `d > 2 ^ 63` has failed
  case case6 hle _ => exact Option.some.inj h ▸ Nat.le_of_not_gt hle
  -- more groups follow
  case case7 ih => exact ih h
  -- every other branch refuses
  all_goals cases h

theorem finishTimeout_range (neg : Bool) (body : List Char) (n : Int) (h : finishTimeout neg body = some n) :
    -(2 ^ 63 : Int) ≤ n ∧ n ≤ 2 ^ 63 - 1 := by
  revert h
  fun_cases finishTimeout neg body <;> intro h <;> cases h
  case case1 => decide                                              -- "0" alone
  case case3 k hk _ => have := parseGroups_le _ _ _ _ hk; omega     -- negative: `-k` with `k ≤ 2 ^ 63`
  case case5 => omega                                               -- positive: `k > 2 ^ 63 - 1` has been refused

/-- **C19 (an accepted `app_timeout` fits a Duration).**  Whatever text is given — bare numbers of any length (milliseconds),
several `<number><unit>` groups, a sign — if the value is accepted at all, the stored number of nanoseconds lies within the
range of a signed 64-bit integer: overflow is refused, never wrapped around. -/
theorem C19_timeout_fits_duration (v : CBytes) (n : Int) (h : parseTimeout v = some n) :
    -(2 ^ 63 : Int) ≤ n ∧ n ≤ 2 ^ 63 - 1 := by
  unfold parseTimeout at h
  simp only [] at h
  split at h <;> exact finishTimeout_range _ _ n h
