import NrDaemon.Gen.Decisions
import NrDaemon.Gen.Negotiation
import NrDaemon.Model.Limits
import NrDaemon.Model.Proc
import NrDaemon.Model.Trigger
import NrDaemon.Model.Metrics
/-!
  The hand-written model agrees, for ALL inputs, with the decision functions translated from the current Go source
  (`Gen/Decisions.lean`, `Gen/Negotiation.lean`, regenerated on every run).  A change to one of those Go functions changes
  the generated definition, and the corresponding theorem stops checking unless the behaviour is the same.  The theorems
  are stated in the property modules (`C03_connect_gate_tied`, `C05_table_full_tied`, `C05_negotiation_tied`,
  `C06_heap_orders_tied`, `C07_aggregate_tied`, `C12_isHarvestAll_tied`, `C12_checkReportPeriod_tied`), where they are
  counted as obligations; this file holds what their statements need and the parts that are theorems of several lines.
-/
open Gen.Limits

/-- the numeric value of an application state (`AppState` is an `iota` enumeration in app.go) -/
def AState.code : AState → Int
  | .unknown => 0 | .connected => 1 | .disconnected => 2 | .restart => 3 | .invalidLicense => 4

def MData.toGen (d : MData) : Gen.Decisions.MetricData :=
  { countSatisfied := d.c, totalTolerated := d.t, exclusiveFailed := d.e, min := d.mn, max := d.mx, sumSquares := d.sq }

/-- the model's `isHarvestAll` is `(*ConnectReply).isHarvestAll` as translated from harvest_trigger.go on this run (non-nil reply) -/
theorem tied_isHarvestAll (n : Negotiated) :
    isHarvestAll n =
      Gen.Decisions.isHarvestAll (n.cfgs.txn.period : Int) (n.cfgs.custom.period : Int) (n.cfgs.err.period : Int)
        (n.cfgs.log.period : Int) (n.cfgs.span.period : Int) (n.reportPeriod : Int) true := by
  -- both sides say "the five periods and the report period are 60 s"; they differ in `Nat` against `Int` and in how `&&` associates
  have h6 : (n.reportPeriod : Int) = 60000000000 ↔ n.reportPeriod = 60000000000 := Int.natCast_inj (n := 60000000000)
  simp [isHarvestAll, comparedCats, catPeriod, Gen.Decisions.isHarvestAll, DefaultReportPeriod, Int.natCast_inj, Bool.and_assoc,
    Bool.beq_eq_decide_eq, h6]

/-! ### limit negotiation (`Gen/Negotiation.lean`, translated by the symbolic executor of the extractor) -/

/-- the model's `getEventConfig` is the code's: same error condition, same limit, same period.  The translated function takes the
optional raw limit as a value and a presence flag and returns (limit, period, error). -/
theorem tied_getEventConfig (raw : Option Int) (cr dl dr : Nat) :
    match getEventConfig raw cr dl dr with
    | none => (Gen.Negotiation.getEventConfig cr dl dr (raw.getD 0) raw.isSome).2.2 = true
    | some c => Gen.Negotiation.getEventConfig cr dl dr (raw.getD 0) raw.isSome = (c.limit, (c.period : Int), false) := by
  cases raw with
  | none => simp [getEventConfig, Gen.Negotiation.getEventConfig]
  | some l =>
    simp only [getEventConfig, Gen.Negotiation.getEventConfig, Option.getD_some, Option.isSome_some, Bool.not_true,
      Bool.false_eq_true, if_false]
    by_cases h1 : l < 0
    · simp [h1]
    · by_cases h2 : l > (dl : Int) <;> simp [h1, h2]

/-- the model's `newHarvestLimits` is `NewHarvestLimits` (agent limits present), and without agent limits the maxima -/
theorem tied_newHarvestLimits (span log custom : Int) :
    Gen.Negotiation.newHarvestLimits custom log span true =
      ((newHarvestLimits span log custom).err.limit, (newHarvestLimits span log custom).txn.limit,
       (newHarvestLimits span log custom).custom.limit, (newHarvestLimits span log custom).span.limit,
       (newHarvestLimits span log custom).log.limit) ∧
    Gen.Negotiation.newHarvestLimits custom log span false =
      ((MaxErrorEvents : Int), (MaxTxnEvents : Int), (MaxCustomMaxEvents : Int), (MaxSpanMaxEvents : Int), (MaxLogMaxEvents : Int)) := by
  refine ⟨?_, rfl⟩
  simp only [Gen.Negotiation.newHarvestLimits, newHarvestLimits, MaxErrorEvents, MaxTxnEvents, MaxCustomMaxEvents,
    MaxSpanMaxEvents, MaxLogMaxEvents, if_true, Bool.and_eq_true, decide_eq_true_eq]
  -- the translated function is a tree over the three range tests; the model takes each limit by itself
  by_cases h1 : span < 10000 ∧ span ≥ 0 <;> by_cases h2 : log < 20000 ∧ log ≥ 0 <;>
    by_cases h3 : custom < 100000 ∧ custom ≥ 0 <;> simp [h1, h2, h3]

/-- the model's `finalLogLimit` is `processLogEventLimits` (all three pointers non-nil), and a nil pointer leaves the
collector's limit untouched -/
theorem tied_processLogEventLimits (agent collectorLimit : Int) (collectorPeriod : Nat) :
    Gen.Negotiation.processLogEventLimits true true collectorLimit (collectorPeriod : Int) true agent =
      finalLogLimit agent collectorLimit collectorPeriod ∧
    (∀ a b c : Bool, (a && b && c) = false →
      Gen.Negotiation.processLogEventLimits a b collectorLimit (collectorPeriod : Int) c agent = collectorLimit) := by
  constructor
  · simp only [Gen.Negotiation.processLogEventLimits, finalLogLimit, scaledAgentLogLimit, DefaultReportPeriod,
      Bool.not_true, Bool.false_eq_true, if_false]
    by_cases h1 : (agent * (collectorPeriod : Int)).tdiv (60000000000 : Int) ≥ 0 <;>
    by_cases h2 : (agent * (collectorPeriod : Int)).tdiv (60000000000 : Int) < collectorLimit <;> simp [h1, h2]
  · intro a b c h
    cases a <;> cases b <;> cases c <;> simp_all [Gen.Negotiation.processLogEventLimits]
