import NrDaemon.Lemmas.Frame
import NrDaemon.Gen.Skeleton
/-!
  C09 — socket framing is lossless, bounded and self-delineating.
  `isLegacyAgent`, `maxMessageSize` (2 MiB) and `msgHeaderSize` are regenerated from listener.go on every run.
-/
open Gen.Listener

/-- **C09 (fragmentation is irrelevant).**  However the transport fragments the byte stream, the same messages are
delivered and the connection ends the same way. -/
theorem C09_fragmentation_irrelevant (fuel : Nat) (cs1 cs2 : Chunks) (h : cs1.flatten = cs2.flatten) :
    readAll fuel cs1 = readAll fuel cs2 := by
  rw [readAll_spec, readAll_spec, h]

theorem rd32_le32 (n : Nat) (h : n < 4294967296) (tail : Bytes) : rd32 (le32 n ++ tail) = n := by
  have h3 : n / 16777216 % 256 = n / 16777216 := Nat.mod_eq_of_lt (Nat.div_lt_of_lt_mul h)
  simp only [rd32, le32, List.cons_append, List.getD_cons_zero, List.getD_cons_succ, UInt8.toNat_ofNat', Nat.reducePow,
    Nat.mod_mod]
  -- in Horner form `Nat.mod_add_div` puts `n` together again digit by digit (`omega` on the flat form is several times dearer)
  calc _ = n % 256 + 256 * (n / 256 % 256 + 256 * (n / 256 / 256 % 256 + 256 * (n / 256 / 256 / 256))) := by
          simp only [h3, Nat.div_div_eq_div_mul, Nat.mul_add, ← Nat.mul_assoc, Nat.add_assoc, Nat.reduceMul]
    _ = n := by rw [Nat.mod_add_div, Nat.mod_add_div, Nat.mod_add_div]

theorem le32_length (n : Nat) : (le32 n).length = 4 := rfl

theorem isLegacyAgent_byte3 (p : Bytes) (h : byteAt p 3 ≠ 32) : isLegacyAgent p = false := by
  simp [isLegacyAgent, h]

/-- **C09 (no collision with the legacy header).**  A header announcing at most 2 MiB is never mistaken for a
legacy agent's greeting, whatever the type code. -/
theorem C09_no_legacy_collision (size ty : Nat) (h : size ≤ maxMessageSize) (tail : Bytes) :
    isLegacyAgent (le32 size ++ le32 ty ++ tail) = false := by
  -- the fourth byte of the header is the top byte of the size, which is 0 below 16 MiB
  refine isLegacyAgent_byte3 _ ?_
  show ((UInt8.ofNat (size / 16777216 % 256)).toNat : Int) ≠ 32
  rw [Nat.div_eq_of_lt (Nat.lt_of_le_of_lt h (by decide))]
  decide

theorem frameHeader_spec (size ty : Nat) (hs : size ≤ maxMessageSize) :
    (le32 size ++ le32 ty).length = msgHeaderSize ∧ isLegacyAgent (le32 size ++ le32 ty) = false ∧
    rd32 (le32 size ++ le32 ty) = size ∧ (ty < 4294967296 → rd32 ((le32 size ++ le32 ty).drop 4) = ty) :=
  ⟨rfl, by simpa using C09_no_legacy_collision size ty hs [], rd32_le32 _ (Nat.lt_of_le_of_lt hs (by decide)) _,
    fun ht => rd32_le32 ty ht []⟩

theorem parse1_frame (ty : Nat) (body tail : Bytes) (hb : body.length ≤ maxMessageSize) (ht : ty < 4294967296) :
    parse1 (encodeFrame ty body ++ tail) = .msg ty body tail := by
  obtain ⟨hl, hleg, hsz, hty⟩ := frameHeader_spec body.length ty hb
  rw [encodeFrame, List.append_assoc, parse1_header _ _ hl, hleg, hsz, hty ht]
  simp [Nat.not_lt.mpr hb]

def encodeAll (msgs : List (Nat × Bytes)) : Bytes := (msgs.map (fun m => encodeFrame m.1 m.2)).flatten

def WellFormed (msgs : List (Nat × Bytes)) : Prop :=
  ∀ m ∈ msgs, m.2.length ≤ maxMessageSize ∧ m.1 < 4294967296

theorem encodeAll_cons (m : Nat × Bytes) (ms : List (Nat × Bytes)) :
    encodeAll (m :: ms) = encodeFrame m.1 m.2 ++ encodeAll ms := rfl

theorem parseAll_frame (m : Nat × Bytes) (hm : m.2.length ≤ maxMessageSize ∧ m.1 < 4294967296) (rest : Bytes) (fuel : Nat) :
    parseAll (fuel + 1) (encodeFrame m.1 m.2 ++ rest) = (m :: (parseAll fuel rest).1, (parseAll fuel rest).2) := by
  rw [parseAll, parse1_frame m.1 m.2 _ hm.1 hm.2]

/-- **C09 (round trip).**  Any sequence of messages (bodies of 0 … 2 MiB, any 32-bit type code) written to a
connection is read back as the same sequence of (type, bytes), and then the clean end of stream. -/
theorem C09_roundtrip (msgs : List (Nat × Bytes)) (h : WellFormed msgs) (fuel : Nat) (hf : msgs.length < fuel) :
    parseAll fuel (encodeAll msgs) = (msgs, .eof) := by
  induction msgs generalizing fuel with
  | nil => obtain _ | f := fuel <;> simp_all [parseAll, encodeAll, parse1]
  | cons m ms ih =>
    obtain _ | f := fuel
    · simp at hf
    · rw [encodeAll_cons, parseAll_frame m (h m (by simp)), ih (fun x hx => h x (by simp [hx])) f (Nat.lt_of_succ_lt_succ hf)]

/-- the same through any fragmentation of the transport -/
theorem C09_roundtrip_chunked (msgs : List (Nat × Bytes)) (h : WellFormed msgs) (cs : Chunks)
    (hc : cs.flatten = encodeAll msgs) (fuel : Nat) (hf : msgs.length < fuel) :
    readAll fuel cs = (msgs, .eof) := by
  rw [readAll_spec, hc]; exact C09_roundtrip msgs h fuel hf

/-- **C09 (oversize is rejected before the body is touched).**  A header announcing more than 2 MiB ends the
connection with an error; the outcome does not depend on (and the reader does not consume or allocate for) anything
after the header. -/
theorem C09_oversize_rejected (hdr tail1 tail2 : Bytes) (hl : hdr.length = msgHeaderSize)
    (hleg : isLegacyAgent hdr = false) (hbig : rd32 hdr > maxMessageSize) :
    parse1 (hdr ++ tail1) = .errTooLarge (rd32 hdr) ∧ parse1 (hdr ++ tail2) = .errTooLarge (rd32 hdr) := by
  simp [parse1_header _ _ hl, hleg, hbig]

/-- in the chunk-level reader the oversize outcome is reached after exactly one `ReadFull` (the header): no body
buffer is allocated -/
theorem C09_oversize_unallocated (cs : Chunks) (a : Nat) (h : parse1 cs.flatten = .errTooLarge a) :
    readMessage cs = .errTooLarge a := by
  have hs := readMessage_spec cs
  rw [h] at hs
  cases hr : readMessage cs <;> rw [hr] at hs <;> simp [ReadOut.abs] at hs
  subst hs; rfl

/-- **C09 (legacy header).**  A legacy-format header ends the connection, whatever follows. -/
theorem C09_legacy_rejected (hdr tail : Bytes) (hl : hdr.length = msgHeaderSize) (hleg : isLegacyAgent hdr = true) :
    parse1 (hdr ++ tail) = .errLegacy := by
  simp [parse1_header _ _ hl, hleg]

/-- **C09 (replies).**  A reply is written as exactly one frame of the request's type: reading the writer's output
yields that one message and nothing else. -/
theorem C09_reply_one_frame (ty : Nat) (reply : Bytes) (hr : reply.length ≤ maxMessageSize) (ht : ty < 4294967296) :
    parseAll 2 (encodeFrame ty reply) = ([(ty, reply)], .eof) := by
  -- one frame, and the empty stream after it is the clean end (`parseAll 1 [] = ([], .eof)` by evaluation)
  have := parseAll_frame (ty, reply) ⟨hr, ht⟩ [] 1
  rwa [List.append_nil] at this

theorem encodeFrame_length (ty : Nat) (body : Bytes) : (encodeFrame ty body).length = msgHeaderSize + body.length :=
  List.length_append

theorem parseAll_truncated_frame (ty : Nat) (body : Bytes) (hb : body.length ≤ maxMessageSize) (n : Nat)
    (hn : n < (encodeFrame ty body).length) (fuel : Nat) :
    ∃ e, parseAll (fuel + 1) ((encodeFrame ty body).take n) = ([], e) ∧ (e = .eof ∨ e = .errHeader ∨ e = .errBody) := by
  rw [parseAll]
  by_cases h8 : n < msgHeaderSize
  · rw [parse1_short _ (Nat.lt_of_le_of_lt (List.length_take_le n _) h8)]
    cases ((encodeFrame ty body).take n).isEmpty
    · exact ⟨.errHeader, rfl, .inr (.inl rfl)⟩
    · exact ⟨.eof, rfl, .inl rfl⟩
  · -- cut inside the body: the header is whole and announces more than is left
    have h8 := Nat.le_of_not_lt h8
    obtain ⟨hl, hleg, hsz, -⟩ := frameHeader_spec body.length ty hb
    have htake : (encodeFrame ty body).take n = (le32 body.length ++ le32 ty) ++ body.take (n - msgHeaderSize) := by
      rw [encodeFrame, List.take_append, List.take_of_length_le (hl ▸ h8), hl]
    have hcut : (body.take (n - msgHeaderSize)).length < body.length :=
      Nat.lt_of_le_of_lt (List.length_take_le _ _) (Nat.sub_lt_left_of_lt_add h8 (encodeFrame_length ty body ▸ hn))
    rw [htake, parse1_header _ _ hl, hleg, hsz, if_neg Bool.false_ne_true, if_neg (Nat.not_lt.mpr hb), if_pos hcut]
    exact ⟨.errBody, rfl, .inr (.inr rfl)⟩

/-- **C09 (truncation never delivers a partial message).**  If a stream of well-formed frames is cut anywhere
before its end, the reader delivers a prefix of the messages (only complete ones) and then ends the connection
with end-of-stream or an error. -/
theorem C09_truncation_no_partial (msgs : List (Nat × Bytes)) (h : WellFormed msgs) (n : Nat)
    (hn : n < (encodeAll msgs).length) (fuel : Nat) (hf : msgs.length < fuel) :
    ∃ k e, k < msgs.length ∧ parseAll fuel ((encodeAll msgs).take n) = (msgs.take k, e) ∧
      (e = .eof ∨ e = .errHeader ∨ e = .errBody) := by
  induction msgs generalizing n fuel with
  | nil => simp [encodeAll] at hn
  | cons m ms ih =>
    obtain _ | f := fuel
    · simp at hf
    have hm := h m (by simp)
    rw [encodeAll_cons] at hn ⊢
    rw [List.take_append]
    by_cases hcut : n < (encodeFrame m.1 m.2).length
    · rw [Nat.sub_eq_zero_of_le (Nat.le_of_lt hcut), List.take_zero, List.append_nil]
      obtain ⟨e, he, hE⟩ := parseAll_truncated_frame m.1 m.2 hm.1 n hcut f
      exact ⟨0, e, Nat.zero_lt_succ _, he, hE⟩
    · have hcut := Nat.le_of_not_lt hcut
      rw [List.length_append] at hn
      obtain ⟨k, e', hk, hp, he⟩ := ih (fun x hx => h x (by simp [hx])) (n - (encodeFrame m.1 m.2).length)
        (Nat.sub_lt_left_of_lt_add hcut hn) f (Nat.lt_of_succ_lt_succ hf)
      refine ⟨k + 1, e', Nat.succ_lt_succ hk, ?_, he⟩
      rw [List.take_of_length_le hcut, parseAll_frame m hm, hp, List.take_succ_cons]

/-- `ReadMessage` and `MessageWriter.Write` as last reviewed: header with `io.ReadFull`, EOF passed on only when nothing was read, the
legacy check, the size cap BEFORE the body is allocated, the body with `io.ReadFull`; the writer sends the header, then the
body only if the header went out — what `Model/Frame.lean` transcribes -/
def reviewedReadMessage : List String := [
  "header := <*ast.CompositeLit>",
  "_, err := io.ReadFull(…)",
  "if nil!=err {",
  "if err==io.EOF {",
  "return <*ast.CompositeLit>, err",
  "}",
  "return <*ast.CompositeLit>, fmt.Errorf(…)",
  "}",
  "if isLegacyAgent(<*ast.SliceExpr>) {",
  "return <*ast.CompositeLit>, errLegacyAgent",
  "}",
  "msgType := MessageType(…)",
  "dataSize := byteOrder.Uint32(…)",
  "if dataSize>maxMessageSize {",
  "if msgType!=MessageTypeBinary {",
  "}",
  "return <*ast.CompositeLit>, fmt.Errorf(…)",
  "}",
  "msg := make(…)",
  "_, err = io.ReadFull(…)",
  "if nil!=err {",
  "return <*ast.CompositeLit>, fmt.Errorf(…)",
  "}",
  "return <*ast.CompositeLit>, nil"
]
def reviewedMessageWrite : List String := [
  "nw, err := mw.writeHeader(…)",
  "if nw>0 {",
  "n += nw",
  "}",
  "if err==nil&&len(p)>0 {",
  "nw, err = mw.W.Write(…)",
  "if nw>0 {",
  "n += nw",
  "}",
  "}",
  "return"
]

/-- **C09 (tie: the frame model transcribes the code).** -/
theorem C09_framing_source_tied :
    Gen.Skeleton.readMessage = reviewedReadMessage ∧ Gen.Skeleton.messageWrite = reviewedMessageWrite := ⟨rfl, rfl⟩
