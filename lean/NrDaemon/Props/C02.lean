import NrDaemon.Props.Reviewed
import NrDaemon.Gen.Skeleton
import NrDaemon.Model.Proc
import NrDaemon.Gen.SwapTable
import NrDaemon.Props.C07
import NrDaemon.Lemmas.Ledger
/-!
  C02 — failed deliveries are retried only as specified, with bounded attempts.
  `Gen.Status.shouldSaveHarvestData` and `Gen.SwapTable.failedHarvest` are regenerated from the Go source.
-/
open Gen.Limits

/-- **C02 (retryable statuses; over the regenerated classification).**  A failed request's data is saved for the next
harvest iff the status is 408, 429, 500 or 503. -/
theorem C02_retry_statuses (c : Int) :
    Gen.Status.shouldSaveHarvestData c = true ↔ (c = 408 ∨ c = 429 ∨ c = 500 ∨ c = 503) := by
  simp only [Gen.Status.shouldSaveHarvestData, Bool.if_true_left, Bool.or_false, Bool.or_eq_true, decide_eq_true_eq, or_assoc]

/-- **C02 (retryable categories; over the regenerated table of `FailedHarvest` methods).**  Metrics and the five event
categories are merged back into the harvest of the same category; errors, slow SQLs, traces and package lists are
never retried. -/
theorem C02_retry_categories :
    Gen.SwapTable.failedHarvest =
      [("MetricTable", "Metrics"), ("ErrorHeap", ""), ("SlowSQLs", ""), ("TxnTraces", ""), ("TxnEvents", "TxnEvents"),
       ("CustomEvents", "CustomEvents"), ("ErrorEvents", "ErrorEvents"), ("SpanEvents", "SpanEvents"),
       ("LogEvents", "LogEvents"), ("PhpPackages", "")] := rfl

/-- the model's `failedHarvest` keeps nothing for the non-retryable categories -/
theorem C02_never_retried (h : HarvestM) (p : Payload) :
    failedHarvest h p .errors = h ∧ failedHarvest h p .slowSql = h ∧ failedHarvest h p .traces = h ∧
    failedHarvest h p .packages = h := by
  cases p <;> exact ⟨rfl, rfl, rfl, rfl⟩

/-- the attempt limits are the documented ones (regenerated from limits.go) -/
theorem C02_limits : FailedMetricAttemptsLimit = 5 ∧ FailedEventsAttemptsLimit = 10 := by decide

/-- `MergeFailed`, events and metrics alike, is `if n > limit then cur else merged` with `n` the advanced counter, which the
merged container carries -/
theorem carry_step {α : Type} (counter : α → Nat) {n limit : Nat} {cur merged : α} (hm : counter merged = n) :
    (n > limit → (if n > limit then cur else merged) = cur) ∧
    (n ≤ limit → counter (if n > limit then cur else merged) = n) :=
  ⟨fun h => if_pos h, fun h => (congrArg counter (if_neg (Nat.not_lt.mpr h))).trans hm⟩

/-- one carry-over of an event payload: given up when it has already failed `limit` times, otherwise merged with the
counter advanced by one -/
theorem C02_events_step (limit : Nat) (cur failed : Res) :
    (failed.failed + 1 > limit → cur.mergeFailed limit failed = cur) ∧
    (failed.failed + 1 ≤ limit → (cur.mergeFailed limit failed).failed = failed.failed + 1) :=
  carry_step Res.failed rfl

/-- the payload that keeps failing: attempt `k+1` sends what attempt `k` carried into a fresh reservoir -/
def eventChain (limit cap : Nat) (first : Res) : Nat → Res
  | 0 => first
  | k + 1 => (Res.new cap).mergeFailed limit (eventChain limit cap first k)

theorem chain_counts (limit : Nat) (f : Nat → Nat) (h0 : f 0 = 0) (hs : ∀ k, f k + 1 ≤ limit → f (k + 1) = f k + 1) :
    ∀ k, k ≤ limit → f k = k := by
  intro k
  induction k with
  | zero => exact fun _ => h0
  | succ k ih =>
    intro hle
    have hk := ih (Nat.le_of_succ_le hle)
    rw [hs k (hk.symm ▸ hle), hk]

/-- **C02 (bounded attempts, events).**  A payload that fails every time carries the counter `k` after `k` failures
while `k ≤ limit`, and after `limit + 1` failures nothing of it is held any more: it is sent at most `1 + limit`
(= 11) times. -/
theorem C02_events_attempts_bounded (limit cap : Nat) (first : Res) (h0 : first.failed = 0) :
    (∀ k, k ≤ limit → (eventChain limit cap first k).failed = k) ∧
    (eventChain limit cap first (limit + 1)).evs = #[] := by
  have hk := chain_counts limit (fun k => (eventChain limit cap first k).failed) h0
    fun k h => (C02_events_step limit (Res.new cap) _).2 h
  refine ⟨hk, ?_⟩
  rw [eventChain, (C02_events_step limit (Res.new cap) _).1 (by rw [hk limit (Nat.le_refl _)]; omega)]
  rfl

/-- one carry-over of a metric payload -/
theorem C02_metrics_step (limit : Nat) (cur failed : MTable) :
    (failed.failed + 1 > limit → cur.mergeFailed limit failed = cur) ∧
    (failed.failed + 1 ≤ limit → (cur.mergeFailed limit failed).failed = failed.failed + 1) :=
  carry_step MTable.failed (MTable.mergeOrd_failed _ _)

/-- the metric payload that keeps failing, with the collector's rename rules applied before every send -/
def metricChain (limit : Nat) (rename : String → String) (first : MTable) : Nat → MTable
  | 0 => first.applyRules rename
  | k + 1 => (((MTable.new first.max).mergeFailed limit (metricChain limit rename first k))).applyRules rename

/-- **C02 (bounded attempts, metrics, with rename rules).**  The attempt counter survives renaming, so a metric
payload that fails every time is sent at most `1 + limit` (= 6) times and is then given up. -/
theorem C02_metrics_attempts_bounded (limit : Nat) (rename : String → String) (first : MTable) (h0 : first.failed = 0) :
    (∀ k, k ≤ limit → (metricChain limit rename first k).failed = k) ∧
    (metricChain limit rename first (limit + 1)).ms = [] := by
  have keep : ∀ t : MTable, (t.applyRules rename).failed = t.failed := fun t =>
    (C07_rename_keeps_attempts t rename t.ms).1
  have hk := chain_counts limit (fun k => (metricChain limit rename first k).failed) ((keep _).trans h0)
    fun k h => (keep _).trans ((C02_metrics_step limit _ _).2 h)
  refine ⟨hk, ?_⟩
  rw [metricChain, (C02_metrics_step limit _ _).1 (by rw [hk limit (Nat.le_refl _)]; omega)]
  rfl

/-- **C02 (bounded attempts, all histories).**  In every history of offers, harvests, acknowledgements, retryable and
fatal failures of one event category — any interleaving, any number of requests in flight — the failed-delivery counter of
the current reservoir and of every payload in flight never exceeds the attempt limit: data is sent at most `limit + 1`
times before it is given up. -/
theorem C02_attempts_bounded_all_histories (cap limit : Nat) (evs : List CatEvent) :
    let s := (CatM.init cap limit).run evs
    s.cur.failed ≤ limit ∧ ∀ p ∈ s.inflight, p.failed ≤ limit := by
  -- a merged reservoir carries the counter `p.failed + 1`, which `MergeFailed` has just tested against the limit
  have h := GM.run_all (evCont cap limit) (·.failed ≤ limit) (Nat.zero_le _) (fun _ _ h => h)
    (fun cur p hc _ => Res.mergeFailed_cases (motive := (·.failed ≤ limit)) limit cur p (fun _ => hc) id)
    _ (evs.map CatEvent.toG) (GM.init_all (evCont cap limit) _ (Nat.zero_le limit))
  rwa [← CatM.run_toGM] at h

/-- **C02 (metrics: bounded attempts, all histories).**  In every history of contributions, harvests, acknowledgements,
retryable and fatal failures of the metric category — any interleaving, any number of requests in flight, any table
capacity — the failed-delivery counter of the current table and of every payload in flight never exceeds the attempt
limit, so a metric payload is sent at most `limit + 1` times before it is given up. -/
theorem C02_metric_attempts_bounded_all_histories (max limit : Nat) (evs : List (GEvent Contrib)) :
    let s := (GM.init (mtCont max limit)).run (mtCont max limit) evs
    s.cur.failed ≤ limit ∧ ∀ p ∈ s.inflight, p.failed ≤ limit := by
  refine GM.run_all (mtCont max limit) (·.failed ≤ limit) (Nat.zero_le _) (fun t c h => ?_) (fun t p ht _ => ?_) _ evs
    (GM.init_all (mtCont max limit) _ (Nat.zero_le limit))
  · exact (t.mergeG_merged ..).failed.symm ▸ h
  · refine MTG.mergeFailed_cases (motive := (·.failed ≤ limit)) limit t p (fun _ => ht) fun hle => ?_
    -- merging the entries one by one leaves the counter at `p.failed + 1`, where `MergeFailed` has set it
    rwa [List.foldlRecOn (motive := fun u => u.failed = p.failed + 1) _ _ rfl fun u hu e _ =>
      (MTG.mergeG_merged u ..).failed.trans hu]


/-! ## Ties to the current source: the functions transcribed by the model have not changed since they were reviewed (`Props/Reviewed.lean`) -/

/-- **C02 (tie).**  `metricsMergeFailed`: attempt counter and limit of a carried-over metric table. -/
theorem C02_metrics_merge_failed_source_tied : Gen.Skeleton.metricsMergeFailed = Reviewed.metricsMergeFailed := rfl

/-- **C02 (tie).**  `eventsMergeFailed`: attempt counter and limit of a carried-over reservoir. -/
theorem C02_events_merge_failed_source_tied : Gen.Skeleton.eventsMergeFailed = Reviewed.eventsMergeFailed := rfl
