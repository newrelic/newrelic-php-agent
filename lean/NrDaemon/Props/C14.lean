import NrDaemon.Model.Redact
import NrDaemon.Gen.LogSites
/-!
  C14 — credentials never reach the logs (the parts a model can carry: the two sanitisers, as non-interference
  statements: what is logged does not depend on the secret).
-/

/-- **C14 (license key).**  For keys longer than four characters the logged form depends on the key only through its
first two and last two characters: any two such keys that agree there are logged identically. -/
theorem C14_key_obfuscated (k1 k2 : Arg) (h1 : k1.length > 4) (h2 : k2.length > 4)
    (hp : k1.take 2 = k2.take 2) (hs : k1.drop (k1.length - 2) = k2.drop (k2.length - 2)) :
    licenseString k1 = licenseString k2 := by
  simp [licenseString, h1, h2, hp, hs]

/-- the logged form of a real (40 character) key is 6 characters long -/
theorem C14_key_short (k : Arg) (h : k.length > 4) : (licenseString k).length = 6 := by
  rw [licenseString, if_pos h]
  simp only [List.length_append, List.length_take, List.length_drop, List.length_cons, List.length_nil]
  omega

theorem echoFrom_append (st : EchoState) (a b : List Arg) :
    echoFrom st (a ++ b) = echoFrom st a ++ echoFrom (stateAfter st a) b := by
  induction a generalizing st with
  | nil => rfl
  | cons x xs ih => simp [echoFrom, stateAfter, ih]

theorem splitEq1_lit (pre : Arg) (hpre : ∀ c ∈ pre, c ≠ '=') (rest : Arg) :
    splitEq1 (pre ++ '=' :: rest) = (pre, some rest) := by
  induction pre with
  | nil => simp [splitEq1]
  | cons c cs ih =>
    have hc : (c == '=') = false := beq_false_of_ne (hpre c List.mem_cons_self)
    have := ih (fun x hx => hpre x (List.mem_cons_of_mem c hx))
    simp [splitEq1, hc, this]

theorem dropWs_spaces (n : Nat) (c : Char) (rest : Arg) (hc : isWs c = false) :
    dropWs (List.replicate n ' ' ++ c :: rest) = c :: rest := by
  induction n with
  | zero => simp [dropWs, hc]
  | succ n ih => simp [List.replicate, dropWs, isWs, ih]

theorem redactDefine_proxy (w1 w2 : Nat) (v : Arg) :
    redactDefine (List.replicate w1 ' ' ++ 'p' :: 'r' :: 'o' :: 'x' :: 'y' :: (List.replicate w2 ' ' ++ '=' :: v)) =
      sProxy ++ ['='] ++ redacted := by
  unfold redactDefine
  rw [dropWs_spaces w1 'p' _ (by decide)]
  simp only
  rw [dropWs_spaces w2 '=' _ (by decide)]
  rfl

theorem splitFlagArg_joined (two : Bool) (n0 : Char) (ns v : Arg) (hn : n0 ≠ '-') (h : ∀ c ∈ ns, c ≠ '=') :
    splitFlagArg ((if two then ['-', '-'] else ['-']) ++ n0 :: (ns ++ '=' :: v)) =
      (if two then ['-', '-'] else ['-'], n0 :: ns, v, true) := by
  cases two <;> simp [splitFlagArg, beq_false_of_ne hn, splitEq1_lit ns h v]

theorem echoStep_joined (two : Bool) (n0 : Char) (ns v : Arg) (hn : n0 ≠ '-') (h : ∀ c ∈ ns, c ≠ '=') :
    echoStep .idle ((if two then ['-', '-'] else ['-']) ++ n0 :: (ns ++ '=' :: v)) =
      if n0 :: ns == sProxy || n0 :: ns == sX then ((if two then ['-', '-'] else ['-']) ++ n0 :: ns ++ ['='] ++ redacted, .idle)
      else if n0 :: ns == sDefine then ((if two then ['-', '-'] else ['-']) ++ n0 :: ns ++ ['='] ++ redactDefine v, .idle)
      else ((if two then ['-', '-'] else ['-']) ++ n0 :: (ns ++ '=' :: v), .idle) := by
  simp only [echoStep, splitFlagArg_joined two n0 ns v hn h, if_true]

theorem echoStep_joined_indep (two : Bool) (n0 : Char) (ns : Arg) (hn : n0 ≠ '-') (h : ∀ c ∈ ns, c ≠ '=') (w1 w2 : Arg)
    (hname : (n0 :: ns == sProxy || n0 :: ns == sX) = true ∨ (n0 :: ns = sDefine ∧ redactDefine w1 = redactDefine w2)) :
    echoStep .idle ((if two then ['-', '-'] else ['-']) ++ n0 :: (ns ++ '=' :: w1)) =
      echoStep .idle ((if two then ['-', '-'] else ['-']) ++ n0 :: (ns ++ '=' :: w2)) := by
  rw [echoStep_joined two n0 ns w1 hn h, echoStep_joined two n0 ns w2 hn h]
  rcases hname with hp | ⟨hd, hw⟩
  · rw [if_pos hp, if_pos hp]
  · rw [hd, hw]; rfl

theorem echo_next (flag x y : Arg) (st : EchoState) (hst : st ≠ .idle) (h : echoStep .idle flag = (flag, st))
    (hxy : (echoStep st x).1 = (echoStep st y).1) :
    echoFrom .idle [flag, x] = echoFrom .idle [flag, y] ∧ stateAfter .idle [flag, x] = stateAfter .idle [flag, y] := by
  have hs : ∀ z, (echoStep st z).2 = .idle := fun z => by cases st <;> first | rfl | exact absurd rfl hst
  simp only [echoFrom, stateAfter, h, hxy, hs, and_self]

/-- **C14 (ARGV echo, every spelling).**  Whatever precedes and follows it on the command line (the scanner being
between options), the echo of a command line does not depend on the proxy value `v`, for each way of spelling the
option: separate argument (new-style and legacy name, one or two dashes), `=`-joined, and through `--define` in both
forms with any spacing.  Two command lines that differ only in the proxy value are therefore logged identically. -/
theorem C14_argv_echo (pre post : List Arg) (hidle : stateAfter .idle pre = .idle) (v1 v2 : Arg) :
    (∀ flag ∈ [['-', 'p', 'r', 'o', 'x', 'y'], ['-', '-', 'p', 'r', 'o', 'x', 'y'], ['-', 'x'], ['-', '-', 'x']],
      echoArgs (pre ++ [flag, v1] ++ post) = echoArgs (pre ++ [flag, v2] ++ post)) ∧
    (∀ two : Bool, echoArgs (pre ++ [(if two then ['-', '-'] else ['-']) ++ 'p' :: 'r' :: 'o' :: 'x' :: 'y' :: '=' :: v1] ++ post) =
            echoArgs (pre ++ [(if two then ['-', '-'] else ['-']) ++ 'p' :: 'r' :: 'o' :: 'x' :: 'y' :: '=' :: v2] ++ post)) ∧
    (∀ two : Bool, echoArgs (pre ++ [(if two then ['-', '-'] else ['-']) ++ 'x' :: '=' :: v1] ++ post) =
            echoArgs (pre ++ [(if two then ['-', '-'] else ['-']) ++ 'x' :: '=' :: v2] ++ post)) ∧
    (∀ (two : Bool) (w1 w2 : Nat),
      echoArgs (pre ++ [(if two then ['-', '-'] else ['-']) ++ sDefine,
                        List.replicate w1 ' ' ++ 'p' :: 'r' :: 'o' :: 'x' :: 'y' :: (List.replicate w2 ' ' ++ '=' :: v1)] ++ post) =
      echoArgs (pre ++ [(if two then ['-', '-'] else ['-']) ++ sDefine,
                        List.replicate w1 ' ' ++ 'p' :: 'r' :: 'o' :: 'x' :: 'y' :: (List.replicate w2 ' ' ++ '=' :: v2)] ++ post)) ∧
    (∀ (two : Bool) (w1 w2 : Nat),
      echoArgs (pre ++ [(if two then ['-', '-'] else ['-']) ++ 'd' :: 'e' :: 'f' :: 'i' :: 'n' :: 'e' :: '=' ::
                        (List.replicate w1 ' ' ++ 'p' :: 'r' :: 'o' :: 'x' :: 'y' :: (List.replicate w2 ' ' ++ '=' :: v1))] ++ post) =
      echoArgs (pre ++ [(if two then ['-', '-'] else ['-']) ++ 'd' :: 'e' :: 'f' :: 'i' :: 'n' :: 'e' :: '=' ::
                        (List.replicate w1 ' ' ++ 'p' :: 'r' :: 'o' :: 'x' :: 'y' :: (List.replicate w2 ' ' ++ '=' :: v2))] ++ post)) := by
  unfold echoArgs
  -- the scanner is between options before and after the part that differs, and echoes that part identically
  have key : ∀ (a1 a2 : List Arg), echoFrom .idle a1 = echoFrom .idle a2 ∧ stateAfter .idle a1 = stateAfter .idle a2 →
      echoFrom .idle (pre ++ a1 ++ post) = echoFrom .idle (pre ++ a2 ++ post) := by
    intro a1 a2 ⟨h1, h2⟩
    rw [List.append_assoc, List.append_assoc, echoFrom_append .idle pre, echoFrom_append .idle pre, hidle,
        echoFrom_append .idle a1, echoFrom_append .idle a2, h1, h2]
  have one : ∀ x y : Arg, echoStep .idle x = echoStep .idle y →
      echoFrom .idle [x] = echoFrom .idle [y] ∧ stateAfter .idle [x] = stateAfter .idle [y] := by
    intro x y h
    simp [echoFrom, stateAfter, h]
  refine ⟨?_, ?_, ?_, ?_, ?_⟩
  · intro flag hf
    refine key _ _ (echo_next flag v1 v2 .redactNext (by decide) ?_ rfl)
    simp only [List.mem_cons, List.not_mem_nil, or_false] at hf
    rcases hf with rfl | rfl | rfl | rfl <;> rfl
  · exact fun two => key _ _ (one _ _ (echoStep_joined_indep two 'p' ['r', 'o', 'x', 'y'] (by decide) (by decide) v1 v2 (Or.inl (by decide))))
  · exact fun two => key _ _ (one _ _ (echoStep_joined_indep two 'x' [] (by decide) (by simp) v1 v2 (Or.inl (by decide))))
  · intro two w1 w2
    refine key _ _ (echo_next _ _ _ .defineNext (by decide) (by cases two <;> rfl) ?_)
    simp only [echoStep, redactDefine_proxy]
  · exact fun two w1 w2 => key _ _ (one _ _ (echoStep_joined_indep two 'd' ['e', 'f', 'i', 'n', 'e'] (by decide) (by decide) _ _
      (Or.inr ⟨rfl, by rw [redactDefine_proxy, redactDefine_proxy]⟩)))

/-- non-vacuity: the idle-state hypothesis holds for ordinary prefixes -/
example : stateAfter .idle [['-', 'f'], ['-', '-', 'l', 'o', 'g', 'f', 'i', 'l', 'e'], ['/', 'x']] = .idle := by decide +kernel

/-! ## The inventory of credential-capable log sinks (regenerated: `Gen.LogSites`) -/

/-- the log calls of collector/, cmd/daemon and newrelic/ that receive an error, a license key, a URL, a proxy setting or a
struct with a `Proxy` / `License` field — as they were when the scans of this property were last reviewed -/
def reviewedLogSites : List String := [
  "cmd/daemon/main.go:run:Errorf:\"could not create pid file: %v\":err=err",
  "cmd/daemon/main.go:run:Errorf:\"could not write pid to file: %v\":err=err",
  "cmd/daemon/progenitor.go:runProgenitor:Errorf:\"unable to create watcher process: %v\":err=err",
  "cmd/daemon/progenitor.go:runProgenitor:Warnf:\"error isolating process group: %v\":err=err",
  "cmd/daemon/watcher.go:runWatcher:Errorf:\"unable to create worker: %v\":err=err",
  "cmd/daemon/worker.go:listenAndServe:Debugf:\"error sending signal to the progenitor process that the worker is ready: %v\":err=err",
  "cmd/daemon/worker.go:raiseFileLimit:Warnf:\"unable to increase file limit: %v\":err=err",
  "cmd/daemon/worker.go:raiseFileLimit:Warnf:?:err=err",
  "cmd/daemon/worker.go:raiseFileLimit:Warnf:?:err=err",
  "cmd/daemon/worker.go:runWorker:Debugf:\"pprof server error: %v\":err=err",
  "cmd/daemon/worker.go:runWorker:Errorf:\"%v\":err=err",
  "cmd/daemon/worker.go:runWorker:Errorf:\"unable to create client: %v\":err=err",
  "cmd/daemon/worker.go:runWorker:Errorf:\"unable to open audit log: %v\":err=err",
  "cmd/daemon/worker.go:runWorker:Infof:\"collector configuration is %+v\":struct=clientCfg",
  "internal/newrelic/app.go:ConnectPayloadInternal:Errorf:\"Cannot determine host name: %s\":err=err",
  "internal/newrelic/app.go:ConnectPayloadInternal:Errorf:\"Failed to set Agent Docker ID: %s\":err=err",
  "internal/newrelic/app.go:filterPhpPackages:Errorf:\"failed to unmarshal php package json: %s\":err=err",
  "internal/newrelic/collector/certs_system.go:init:Warnf:?:err=err",
  "internal/newrelic/collector/client.go:Execute:Audit:\"command='%s' url='%s' payload={%s}\":url=cleanURL",
  "internal/newrelic/collector/client.go:Execute:Audit:\"command='%s' url='%s', status=%d, response={%s}\":url=cleanURL",
  "internal/newrelic/collector/client.go:Execute:Debugf:\"attempt to perform %s failed: %q, url=%s\":url=cleanURL",
  "internal/newrelic/collector/client.go:Execute:Debugf:\"command='%s' url='%s' max_payload_size_in_bytes='%d' payload={%s}\":url=cleanURL",
  "internal/newrelic/collector/client.go:Execute:Debugf:\"command='%s' url='%s', status=%d, response={%s}\":url=cleanURL",
  "internal/newrelic/collector/client.go:Execute:Errorf:\"unable to create audit json payload for '%s': %s\":err=err",
  "internal/newrelic/listener.go:Serve:Debugf:\"accept error: %v, retrying in %v\":err=err",
  "internal/newrelic/listener.go:Serve:Errorf:\"listener: closing connection: %v\":err=err",
  "internal/newrelic/listener.go:Serve:Errorf:\"listener: closing connection: unable to write reply of length %d: %v\":err=err",
  "internal/newrelic/listener.go:Serve:Warnf:\"listener: protocol error: %v\":err=perr",
  "internal/newrelic/listener.go:serve:Debugf:\"listener: error closing client connection: %v\":err=err",
  "internal/newrelic/log_events.go:CollectorJSON:Errorf:\"failed to marshal log label: %s\":err=e",
  "internal/newrelic/log_events.go:SetLogForwardingLabels:Errorf:\"failed to unmarshal log labels json\":err=err",
  "internal/newrelic/metric_rules.go:NewMetricRulesFromJSON:Warnf:\"Unable to compile rule '%s': %s\":err=err",
  "internal/newrelic/pidfile.go:CreatePidFile:Debugf:\"pidfile: %v - retrying\":err=err",
  "internal/newrelic/processor.go:ConnectApplication:Errorf:\"Unable to connect application: %v\":err=err",
  "internal/newrelic/processor.go:ConnectApplication:Errorf:\"unable to connect application: %v\":err=err",
  "internal/newrelic/processor.go:doHarvest:Infof:\"removing %q with run id %q for lack of activity within %v\":struct=app",
  "internal/newrelic/processor.go:harvestPayload:Warnf:\"final harvest for run id %q: %s failed: %v\":err=reply.Err",
  "internal/newrelic/processor.go:integrationLog:Errorf:\"unable to create audit json payload for '%s': %s\":err=err",
  "internal/newrelic/processor.go:processAppInfo:Errorf:\"unable to add app '%s', limit of %d applications reached\":struct=m.Info",
  "internal/newrelic/processor.go:processConnectAttempt:Debugf:\"app '%s': ignoring the result of a superseded connect attempt\":struct=app",
  "internal/newrelic/processor.go:processConnectAttempt:Infof:\"app '%s' connected with run id '%s'\":struct=app",
  "internal/newrelic/processor.go:processConnectAttempt:Warnf:\"app '%s' connect attempt returned %s\":struct=app,err=rep.Err",
  "internal/newrelic/processor.go:processConnectAttempt:Warnf:\"app '%s' connect attempt returned %s; disconnecting\":struct=app,err=collector.NewRPMResponseError(rep.RawReply.Err).Err",
  "internal/newrelic/processor.go:processConnectAttempt:Warnf:\"app '%s' connect attempt returned %s; restarting\":struct=app,err=collector.NewRPMResponseError(rep.RawReply.Err).Err",
  "internal/newrelic/processor.go:processConnectAttempt:Warnf:\"app '%s' connect attempt returned %s; shutting down\":struct=app,err=collector.NewRPMResponseError(rep.RawReply.Err).Err",
  "internal/newrelic/processor.go:processHarvestError:Warnf:\"app %q with run id %q received %s\":struct=app,err=d.Reply.Err"
]

/-- **C14 (tie: no new credential-capable log sink).**  The inventory regenerated from the current source is the reviewed
one: every sink in it is exercised by the fault-injection and process-level scans (URL sinks receive `cleanURL`, the worker's
configuration line receives the redacted copy of the client configuration, errors pass `removeURLFromError` /
`NewRPMResponseError`).  A new or changed sink breaks this theorem and has to be reviewed (and the list updated) even if the
scan finds no leak on the inputs it tries. -/
theorem C14_log_sites_tied : Gen.LogSites.sites = reviewedLogSites := rfl

