import NrDaemon.Props.Reviewed
import NrDaemon.Gen.Skeleton
import NrDaemon.Model.Lasp
/-!
  C13 — security-policy handshake is fail-closed and most-secure-wins.
-/

/-- **C13 (verification, both directions).**  Verification succeeds iff both maps are non-empty, every policy the
collector marks required is reported by the agent as supported, and every policy the agent reports is known to the
collector. -/
theorem C13_verify_iff (ap : AgentMap) (pre : CollMap) :
    verifyPolicies ap pre = true ↔
      (ap ≠ [] ∧ pre ≠ [] ∧
       (∀ p ∈ pre, p.2.required = true → ∃ a, lookupA ap p.1 = some a ∧ a.supported = true) ∧
       (∀ a ∈ ap, (lookupC pre a.1).isSome = true)) := by
  simp only [verifyPolicies, Bool.and_eq_true, Bool.not_eq_true', List.isEmpty_eq_false_iff, List.all_eq_true,
    Bool.or_eq_true, and_assoc]
  -- the same four conjuncts; in the third, policy by policy, `!required || match …` says `required → ∃ a, …`
  refine and_congr_right fun _ => and_congr_right fun _ => and_congr_left' (forall₂_congr fun p _ => ?_)
  cases p.2.required <;> cases lookupA ap p.1 <;> simp

/-- **C13 (fail closed).**  With a token, if verification fails no connect request is sent and the application is
not connected. -/
theorem C13_no_connect_on_failure (ap : AgentMap) (pre : CollMap) (h : verifyPolicies ap pre = false) :
    (connectApp true ap pre).cmds = ["preconnect"] ∧ (connectApp true ap pre).ok = false := by
  simp [connectApp, h]

/-- with a token, a connect request is sent only if verification succeeded -/
theorem C13_connect_only_if_verified (ap : AgentMap) (pre : CollMap)
    (h : "connect" ∈ (connectApp true ap pre).cmds) : verifyPolicies ap pre = true := by
  cases hv : verifyPolicies ap pre with
  | true => rfl
  | false => simp [connectApp, hv] at h

/-- **C13 (most secure wins).**  In the connect request a policy appears iff the agent supports it, and it is
enabled iff both the agent and the collector enable it. -/
theorem C13_enabled_is_conj (ap : AgentMap) (pre : CollMap) (l : List (String × Bool))
    (h : policiesPayload ap pre = some l) (n : String) (e : Bool) :
    (n, e) ∈ l ↔ ∃ a, (n, a) ∈ ap ∧ a.supported = true ∧
      e = (a.enabled && ((lookupC pre n).map (·.enabled)).getD false) := by
  unfold policiesPayload at h
  split at h
  · cases h
  · cases h
    simp only [List.mem_map, List.mem_filter]
    constructor
    · rintro ⟨x, ⟨hx, hs⟩, heq⟩
      cases heq
      exact ⟨x.2, hx, hs, rfl⟩
    · rintro ⟨a, ha, hs, he⟩
      exact ⟨(n, a), ⟨ha, hs⟩, by simp [he]⟩

/-- **C13 (policies returned to agents are exactly the collector's).** -/
theorem C13_returned_is_collectors (token : Bool) (ap : AgentMap) (pre : CollMap)
    (h : (connectApp token ap pre).ok = true) :
    (connectApp token ap pre).returned = pre.map (fun p => (p.1, p.2.enabled)) := by
  -- the branches that are `ok` return `returnedPolicies pre`, which is this list
  revert h
  unfold connectApp
  split
  · nofun   -- verification failed
  · split
    · split
      · nofun   -- no payload could be built
      · exact fun _ => rfl
    · exact fun _ => rfl

/-- **C13 (no token, no check).**  Without a token the policy maps are not consulted and the connect goes ahead. -/
theorem C13_no_token_no_check (ap : AgentMap) (pre : CollMap) :
    (connectApp false ap pre).cmds = ["preconnect", "connect"] ∧ (connectApp false ap pre).payload = none := by
  simp [connectApp]

/-! non-vacuity: a verifying pair and a failing pair -/
example : verifyPolicies [("record_sql", ⟨true, true⟩)] [("record_sql", ⟨false, true⟩)] = true := by decide +kernel
example : verifyPolicies [("record_sql", ⟨true, false⟩)] [("record_sql", ⟨false, true⟩)] = false := by decide +kernel


/-! ## Ties to the current source: the functions transcribed by the model have not changed since they were reviewed (`Props/Reviewed.lean`) -/

/-- **C13 (tie).**  `considerConnect`: the agent's policies reach the handshake untrimmed. -/
theorem C13_consider_connect_source_tied : Gen.Skeleton.considerConnect = Reviewed.considerConnect := rfl

/-- **C13 (tie).**  `connectApplication`: preconnect, verification, returned policies, payload policies, connect - in this order. -/
theorem C13_connect_application_source_tied : Gen.Skeleton.connectApplication = Reviewed.connectApplication := rfl

/-- **C13 (tie).**  `verifySecurityPolicies`: both directions of the verification. -/
theorem C13_verify_source_tied : Gen.Skeleton.verifySecurityPolicies = Reviewed.verifySecurityPolicies := rfl

/-- **C13 (tie).**  `addPoliciesToPayload`: supported policies only, enabled = conjunction. -/
theorem C13_add_policies_source_tied : Gen.Skeleton.addPoliciesToPayload = Reviewed.addPoliciesToPayload := rfl
