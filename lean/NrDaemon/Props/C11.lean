import NrDaemon.Props.Reviewed
import NrDaemon.Gen.Skeleton
import NrDaemon.Lemmas.Proc
import NrDaemon.Gen.Worker
/-!
  C11 — shutdown flushes every application and terminates.
-/
open Gen.Limits

/-- **C11 (termination).**  The final flush returns for every state, every set of runs and every assignment of
outcomes to the final requests: failed final requests are not handed to the (stopped) processor loop. -/
theorem C11_terminates (s : PState) (outcomeOf : Req → Outcome) (order : List String) :
    (cleanExit s outcomeOf order).2.2 = true := by
  unfold cleanExit
  -- the flag starts `true` and no round clears it
  refine List.foldlRecOn (motive := fun (acc : PState × List Req × Bool) => acc.2.2 = true) order _ rfl fun acc h r _ => ?_
  obtain ⟨s', reqs, alive⟩ := acc
  subst h
  simp only [Bool.not_true, Bool.false_eq_true, if_false]
  split <;> rfl

/-- the outcome assignment has no influence on what is flushed -/
theorem C11_outcomes_irrelevant (s : PState) (o1 o2 : Req → Outcome) (order : List String) :
    (cleanExit s o1 order).2.1 = (cleanExit s o2 order).2.1 := rfl   -- the model's `cleanExit` does not read its outcome argument

/-- **C11 (flush is complete, all-at-once harvest).**  In the all-at-once harvest used by the final flush, every
non-empty container handed to `considerMany` becomes a request (exactly the ten categories of
`C01_harvest_all_complete`). -/
theorem C11_flush_complete (s : PState) (a : HArgs) (l : List (Cat × Payload)) :
    ∀ x ∈ l, x.2.isEmpty = false → ∃ r ∈ (considerMany s a l).2, r.cat = x.1 ∧ r.payload = x.2 := by
  intro x hx hne
  have : x ∈ l.filter (fun x => !x.2.isEmpty) := List.mem_filter.mpr ⟨hx, by simp [hne]⟩
  rw [← (considerMany_spec s a l).1] at this
  obtain ⟨r, hr, he⟩ := List.mem_map.mp this
  exact ⟨r, hr, congrArg Prod.fst he, congrArg Prod.snd he⟩

/-- the final flush harvests every category: the mask it uses has all ten bits -/
theorem C11_flush_mask : maskAll % 1024 = maskAll ∧ (∀ b ∈ [1, 2, 4, 8, 16, 32, 64, 128, 256, 512], hasBit maskAll b = true) := by
  decide

/-! ## The worker's shutdown sequence (regenerated from cmd/daemon/worker.go: `Gen.Worker`) -/

/-- **C11 (tie: stop accepting, then flush, then return).**  On the termination signal `runWorker` first cancels the
listener's context (whose goroutine closes the listening socket), then calls `CleanExit`, and does nothing else before it
returns; the worker listens for SIGTERM (and SIGINT in the foreground). -/
theorem C11_shutdown_order_tied :
    Gen.Worker.onSignal = ["cancel", "log.Infof", "p.CleanExit", "log.Infof"] ∧
    Gen.Worker.onCtxDone = ["list.Close"] ∧
    Gen.Worker.notified = ["syscall.SIGTERM", "syscall.SIGINT"] := ⟨rfl, rfl, rfl⟩

/-- `Processor.CleanExit` as last reviewed: stop the loop (a rendezvous with `Run`), then one blocking all-at-once harvest per held run -/
def reviewedCleanExit : List String := [
  "p.quitChan <- <*ast.CompositeLit>",
  "for range p.harvests {",
  "p.doHarvest(…)",
  "}"
]

/-- **C11 (tie: the flush the model describes is the code's).** -/
theorem C11_cleanexit_source_tied : Gen.Skeleton.cleanExit = reviewedCleanExit := rfl


/-- **C11 (tie).**  `runLoop`: the loop stops only by taking the quit message in its select. -/
theorem C11_run_loop_source_tied : Gen.Skeleton.runLoop = Reviewed.runLoop := rfl
