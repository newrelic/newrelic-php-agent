import NrDaemon.Model.Respawn
import NrDaemon.Model.PidFile
import NrDaemon.Gen.Watcher
import NrDaemon.Gen.Worker
/-!
  C20 — crashed workers are respawned; only one daemon owns a pid file.
-/
open Gen.Respawn

/-! # Part 1 — the respawn decision -/

/-- **C20 (respawn decision table)** over the REGENERATED `shouldRespawn`: the worker is respawned iff waiting
failed, or it exited with status ≥ 2, or it was killed by a signal other than SIGTERM (15), or its status is
neither an exit nor a signal. -/
theorem C20_respawn_table (code sig : Int) (exited signaled err : Bool) :
    shouldRespawn code exited sig signaled err = true ↔
      (err = true ∨ (exited = true ∧ code ≥ 2) ∨ (exited = false ∧ signaled = true ∧ sig ≠ 15) ∨
       (exited = false ∧ signaled = false)) := by
  unfold shouldRespawn
  cases err <;> cases exited <;> cases signaled <;> simp

/-- **C20 (every wait status)**: for every 16-bit wait status word, a new worker is started after an abnormal
termination (exit status 2..255, or death by any signal other than SIGTERM) and is not after exit status 0 or 1
or SIGTERM. -/
theorem C20_respawn_every_status (w : Nat) :
    let v := waitView w
    (v.exited = true → (respawnWord w = true ↔ v.code ≥ 2)) ∧
    (v.signaled = true → (respawnWord w = true ↔ v.sig ≠ 15)) ∧
    ¬ (v.exited = true ∧ v.signaled = true) := by
  -- the wait word: exited iff its low seven bits are 0, signalled iff they are neither 0 nor 127 (so never both); the decision
  -- reads the exit code of an exited worker and the signal of a signalled one
  simp only [respawnWord, shouldRespawn, waitView]
  refine ⟨?_, ?_, ?_⟩
  · intro h; simp [h]
  · intro h
    have h0 : (w % 128 == 0) = false := by
      simp only [Bool.and_eq_true, bne_iff_ne, ne_eq] at h
      simpa using h.2
    simp [h0, h]
  · simp only [Bool.and_eq_true, bne_iff_ne, ne_eq, beq_iff_eq]
    omega

/-- clean exit (0), exit status 1 and SIGTERM do not respawn; exit 2, 3 (crash guard) and SIGKILL/SIGSEGV do -/
theorem C20_respawn_examples :
    respawnWord 0 = false ∧ respawnWord 256 = false ∧ respawnWord 15 = false ∧
    respawnWord 512 = true ∧ respawnWord 768 = true ∧ respawnWord 9 = true ∧ respawnWord 11 = true ∧
    respawnWord (128 + 11) = true := by decide

/-- **C20 (watcher loop)**: the watcher spawns exactly one worker per abnormal termination plus the first, and a
SIGTERM to the watcher is forwarded to the current worker and ends supervision. -/
theorem C20_watcher_loop (outs : List (Option Nat)) :
    (watcherLoop (none :: outs) = (1, true)) ∧
    (∀ w, respawnWord w = false → watcherLoop (some w :: outs) = (1, false)) ∧
    (∀ w, respawnWord w = true → watcherLoop (some w :: outs) = ((watcherLoop outs).1 + 1, (watcherLoop outs).2)) := by
  refine ⟨rfl, ?_, ?_⟩
  · intro w h; simp [watcherLoop, h]
  · intro w h; simp [watcherLoop, h]

/-! # Part 2 — only one daemon owns a pid file; a SIGTERM to the watcher is not lost -/

structure PF.Inv (s : PF) : Prop where
  lockPc : ∀ i p, s.lock i = some p → (s.pc p).holdsLock i = true
  pcLock : ∀ p i, (s.pc p).holdsLock i = true → s.lock i = some p
  ownPath : ∀ p i, (s.pc p).owns i = true → s.path = some i
  freshPath : ∀ i, s.path = some i → i < s.next
  freshPc : ∀ p i, (s.pc p).ino = some i → i < s.next

theorem PF.init_inv : ({} : PF).Inv := ⟨nofun, nofun, nofun, nofun, nofun⟩

@[simp] theorem upd_same {α : Type} (f : Nat → α) (a : Nat) (b : α) : upd f a b a = b := by simp [upd]
theorem upd_other {α : Type} (f : Nat → α) (a x : Nat) (b : α) (h : x ≠ a) : upd f a b x = f x := by simp [upd, h]

/-- the inode whose lock a process at this point holds -/
def PC.held : PC → Option Nat
  | .locked i | .checked i | .holder i | .removed i => some i
  | _ => none

/-- the inode a process at this point has decided is its pid file -/
def PC.owned : PC → Option Nat
  | .checked i | .holder i => some i
  | _ => none

theorem PC.holdsLock_iff {c : PC} {i : Nat} : c.holdsLock i = true ↔ c.held = some i := by
  simp only [PC.holdsLock, Bool.or_eq_true, beq_iff_eq]
  cases c <;> simp [PC.held]

theorem PC.owns_iff {c : PC} {i : Nat} : c.owns i = true ↔ c.owned = some i := by
  simp only [PC.owns, Bool.or_eq_true, beq_iff_eq]
  cases c <;> simp [PC.owned]

theorem PC.held_of_owned {c : PC} {i : Nat} (h : c.owned = some i) : c.held = some i := by
  cases c <;> first | exact h | cases h

theorem holdsLock_ino {c : PC} {i : Nat} (h : c.holdsLock i = true) : c.ino = some i := by
  cases c <;> first | exact PC.holdsLock_iff.1 h | cases PC.holdsLock_iff.1 h

theorem PC.owns_holds {c : PC} {i : Nat} (h : c.owns i = true) : c.holdsLock i = true :=
  PC.holdsLock_iff.2 (PC.held_of_owned (PC.owns_iff.1 h))

/-- `PF.Inv` process by process: `q`, being at `c`, agrees with the lock table, the path and the inode counter -/
def PF.Ok (s : PF) (q : Nat) (c : PC) : Prop :=
  (∀ i, s.lock i = some q ↔ c.held = some i) ∧ (∀ i, c.owned = some i → s.path = some i) ∧ ∀ i, c.ino = some i → i < s.next

theorem PF.Inv.ok {s : PF} (h : s.Inv) (q : Nat) : s.Ok q (s.pc q) :=
  ⟨fun i => ⟨fun hl => PC.holdsLock_iff.1 (h.lockPc i q hl), fun hc => h.pcLock q i (PC.holdsLock_iff.2 hc)⟩,
   fun i hi => h.ownPath q i (PC.owns_iff.2 hi), h.freshPc q⟩

/-- after a step of `p` to `c'`: `p` is checked at `c'`, every other process where it was -/
theorem PF.Inv.of_ok {s' : PF} {pc : Nat → PC} {p : Nat} {c' : PC} (hpc : s'.pc = upd pc p c') (hme : s'.Ok p c')
    (hoth : ∀ q, q ≠ p → s'.Ok q (pc q)) (hp : ∀ i, s'.path = some i → i < s'.next) : s'.Inv := by
  have h : ∀ q, s'.Ok q (s'.pc q) := fun q => by
    rw [hpc, upd]; split
    · next e => exact e ▸ hme
    · next e => exact hoth q e
  exact ⟨fun i q hl => PC.holdsLock_iff.2 (((h q).1 i).1 hl), fun q i hc => ((h q).1 i).2 (PC.holdsLock_iff.1 hc),
    fun q i hi => (h q).2.1 i (PC.owns_iff.1 hi), hp, fun q => (h q).2.2⟩

theorem PF.Inv.owner_unique {s : PF} (h : s.Inv) {p q i j : Nat} (hp : (s.pc p).owns i = true) (hq : (s.pc q).owns j = true) :
    p = q ∧ i = j ∧ s.path = some i ∧ s.lock i = some p := by
  have hij : i = j := Option.some.inj ((h.ownPath p i hp).symm.trans (h.ownPath q j hq))
  subst hij
  have l1 := h.pcLock p i (PC.owns_holds hp)
  exact ⟨Option.some.inj (l1.symm.trans (h.pcLock q i (PC.owns_holds hq))), rfl, h.ownPath p i hp, l1⟩

/-- `p` takes the free lock on `i` (`o = some p`) or drops its own (`o = none`): what another process holds is unchanged -/
theorem upd_lock_other {l : Nat → Option Nat} {i p q : Nat} {o : Option Nat} (hq : q ≠ p)
    (hl : l i = some p ∨ l i = none) (ho : o = some p ∨ o = none) (j : Nat) : upd l i o j = some q ↔ l j = some q := by
  unfold upd; split
  · next e => subst e; rcases hl with hl | hl <;> rcases ho with ho | ho <;> simp [hl, ho, Ne.symm hq]
  · rfl

/-- … and `p`'s own locks, `c` being what it held before and `c'` what it holds after: nothing and then `i`, or `i`
and then nothing -/
theorem upd_lock_self {l : Nat → Option Nat} {i p : Nat} {o c c' : Option Nat} (hme : ∀ j, l j = some p ↔ c = some j)
    (ho : (c = none ∧ o = some p ∧ c' = some i) ∨ (c = some i ∧ o = none ∧ c' = none)) (j : Nat) :
    upd l i o j = some p ↔ c' = some j := by
  unfold upd; split
  · next e => subst e; rcases ho with ⟨_, rfl, rfl⟩ | ⟨_, rfl, rfl⟩ <;> simp
  · next e => rw [hme j]; rcases ho with ⟨rfl, _, rfl⟩ | ⟨rfl, _, rfl⟩ <;> simp [Ne.symm e]

/-- the kernel drops every lock of a dying `p`, and nobody else's -/
theorem released_eq_some {l : Nat → Option Nat} {p q j : Nat} :
    (if l j = some p then none else l j) = some q ↔ q ≠ p ∧ l j = some q := by
  split
  · next e => exact ⟨nofun, fun ⟨hne, hq⟩ => absurd (Option.some.inj (hq.symm.trans e)) hne⟩
  · next e => exact ⟨fun hq => ⟨fun hp => e (hp ▸ hq), hq⟩, (·.2)⟩

theorem PF.step_inv (s : PF) (p : Nat) (a : PAct) (h : s.Inv) : (s.step p a).Inv := by
  have hme := h.ok p
  unfold PF.step
  split
  · -- open
    next hpc =>
    rw [hpc] at hme
    split
    · next i hpath =>
      exact .of_ok rfl ⟨hme.1, nofun, fun j hj => Option.some.inj hj ▸ h.freshPath i hpath⟩ (fun q _ => h.ok q) h.freshPath
    · next hpath =>
      refine .of_ok rfl ⟨hme.1, nofun, fun j hj => Option.some.inj hj ▸ Nat.lt_succ_self _⟩ (fun q _ => ?_)
        (fun j hj => Option.some.inj hj ▸ Nat.lt_succ_self _)
      exact ⟨(h.ok q).1, fun i hi => (nomatch hpath ▸ (h.ok q).2.1 i hi), fun i hi => Nat.lt_succ_of_lt (h.freshPc q i hi)⟩
  · -- setlk
    next i hpc =>
    rw [hpc] at hme
    split
    · next hfree =>
      exact .of_ok rfl ⟨upd_lock_self hme.1 (.inl ⟨rfl, rfl, rfl⟩), nofun, hme.2.2⟩
        (fun q hq => ⟨fun j => (upd_lock_other hq (.inr hfree) (.inl rfl) j).trans ((h.ok q).1 j), (h.ok q).2⟩) h.freshPath
    · exact .of_ok rfl ⟨hme.1, nofun, nofun⟩ (fun q _ => h.ok q) h.freshPath
  · -- stat
    next i hpc =>
    rw [hpc] at hme
    split
    · next hpath =>
      exact .of_ok rfl ⟨hme.1, fun j hj => Option.some.inj hj ▸ hpath, hme.2.2⟩ (fun q _ => h.ok q) h.freshPath
    · exact .of_ok rfl ⟨upd_lock_self hme.1 (.inr ⟨rfl, rfl, rfl⟩), nofun, nofun⟩
        (fun q hq => ⟨fun j => (upd_lock_other hq (.inl ((hme.1 i).2 rfl)) (.inr rfl) j).trans ((h.ok q).1 j), (h.ok q).2⟩) h.freshPath
  · -- trunc
    next i hpc =>
    rw [hpc] at hme
    exact .of_ok rfl hme (fun q _ => h.ok q) h.freshPath
  · -- remove: no other process owns the file
    next i hpc =>
    have hown : (s.pc p).owns i = true := by rw [hpc]; exact PC.owns_iff.2 rfl
    rw [hpc] at hme
    exact .of_ok rfl ⟨hme.1, nofun, hme.2.2⟩
      (fun q hq => ⟨(h.ok q).1, fun j hj => absurd (h.owner_unique hown (PC.owns_iff.2 hj)).1.symm hq, (h.ok q).2.2⟩) nofun
  · -- close
    next i hpc =>
    rw [hpc] at hme
    exact .of_ok rfl ⟨upd_lock_self hme.1 (.inr ⟨rfl, rfl, rfl⟩), nofun, nofun⟩
      (fun q hq => ⟨fun j => (upd_lock_other hq (.inl ((hme.1 i).2 rfl)) (.inr rfl) j).trans ((h.ok q).1 j), (h.ok q).2⟩) h.freshPath
  · -- die
    exact .of_ok rfl ⟨fun j => released_eq_some.trans ⟨fun hl => absurd rfl hl.1, nofun⟩, nofun, nofun⟩
      (fun q hq => ⟨fun j => (released_eq_some.trans (and_iff_right hq)).trans ((h.ok q).1 j), (h.ok q).2⟩) h.freshPath
  · exact h

theorem PF.run_inv (s : PF) (es : List (Nat × PAct)) (h : s.Inv) : (s.run es).Inv :=
  es.foldlRecOn _ h fun s hs e _ => PF.step_inv s e.1 e.2 hs

/-- **C20 (at most one daemon owns the pid file, however many race for it).**  In every state reachable by any
interleaving of any number of processes running `CreatePidFile` (open, lock, same-file re-check with retry, truncate),
exiting cleanly (`Remove`: unlink, then close) or dying at any step: two processes for which `CreatePidFile` has decided
the file is theirs are the same process; the file they own is the one the path names; and they hold its record lock. -/
theorem C20_at_most_one_owner (es : List (Nat × PAct)) (p q i j : Nat)
    (hp : (((({} : PF).run es).pc p).owns i) = true) (hq : (((({} : PF).run es).pc q).owns j) = true) :
    p = q ∧ i = j ∧ (({} : PF).run es).path = some i ∧ (({} : PF).run es).lock i = some p :=
  (PF.run_inv {} es PF.init_inv).owner_unique hp hq

-- neither this theorem nor the next uses its hypothesis `h` (a caller has it anyway: the states of interest are reachable ones)
set_option linter.unusedVariables false in
/-- **C20 (a holder that dies releases the file; a successor can start).**  From any reachable state in which no live
process holds a lock any more (the holder was killed, or exited cleanly, and nobody else is in the middle of an attempt),
a fresh process running `CreatePidFile` alone becomes the owner in four steps, whether the file still exists (killed
holder) or not (clean exit). -/
theorem C20_successor_starts (s : PF) (h : s.Inv) (p : Nat) (hp : s.pc p = .start)
    (hfree : ∀ i, s.lock i = none) :
    ∃ i, ((s.run [(p, .open), (p, .setlk), (p, .stat), (p, .trunc)]).pc p) = .holder i := by
  -- it opens the file a killed holder left, or creates one; either way the four steps go through
  cases hpath : s.path with
  | some i => exact ⟨i, by simp only [PF.run, List.foldl, PF.step, hp, hpath, hfree, upd, ↓reduceIte]⟩
  | none => exact ⟨s.next, by simp only [PF.run, List.foldl, PF.step, hp, hpath, hfree, upd, ↓reduceIte]⟩

set_option linter.unusedVariables false in
/-- dying releases every lock the process held, at whatever step it dies -/
theorem C20_death_releases (s : PF) (h : s.Inv) (p i : Nat) : (s.step p .die).lock i ≠ some p :=
  fun hl => (released_eq_some.1 hl).1 rfl

/-! ## The watcher's SIGTERM -/

/-- **C20 (a SIGTERM to the watcher is not lost and ends supervision).**  With a signal channel of capacity ≥ 1: a
SIGTERM arriving while none is pending is kept whatever the watcher is doing (spawning a worker, or waiting); while one
is pending and the watcher is in its select, taking it is enabled; and taking it forwards the signal to the current
worker and ends supervision.  -/
theorem C20_sigterm_not_lost (s : WS) (hcap : 1 ≤ s.cap) (hb : s.buf = 0) :
    (s.step .sigterm).lost = s.lost ∧ (s.step .sigterm).buf = 1 := by
  simp only [WS.step]
  have : s.phase = .selecting ∨ s.buf < s.cap := Or.inr (by omega)
  rw [if_pos this]
  simp [hb]

theorem WS.step_exited {t : WS} (ht : t.phase = .exited) (e : WEvent) :
    (t.step e).phase = .exited ∧ (t.step e).spawns = t.spawns := by
  cases e with
  | sigterm => simp only [WS.step]; split <;> exact ⟨ht, rfl⟩
  | spawned | workerExit _ | takeSignal => simp [WS.step, ht]

theorem WS.run_exited {t : WS} (ht : t.phase = .exited) (es : List WEvent) :
    (t.run es).phase = .exited ∧ (t.run es).spawns = t.spawns :=
  es.foldlRecOn (motive := fun u : WS => u.phase = .exited ∧ u.spawns = t.spawns) _ ⟨ht, rfl⟩ fun _ hu e _ =>
    ⟨(WS.step_exited hu.1 e).1, (WS.step_exited hu.1 e).2.trans hu.2⟩

theorem C20_sigterm_ends_supervision (s : WS) (hsel : s.phase = .selecting) (hb : 0 < s.buf) :
    (s.step .takeSignal).phase = .exited ∧ (s.step .takeSignal).forwarded = true ∧
    ∀ es, ((s.step .takeSignal).run es).spawns = (s.step .takeSignal).spawns := by
  have hstep : s.step .takeSignal = { s with buf := s.buf - 1, forwarded := true, phase := .exited } := by
    simp only [WS.step]; rw [if_pos ⟨hsel, hb⟩]
  rw [hstep]
  exact ⟨rfl, rfl, fun es => (WS.run_exited rfl es).2⟩

/-- with an unbuffered channel the signal IS lost while the watcher is busy spawning: the capacity matters -/
theorem C20_unbuffered_loses : (({ cap := 0 } : WS).run [.sigterm, .spawned]).lost = 1 ∧
    (({ cap := 0 } : WS).run [.sigterm, .spawned]).buf = 0 := by decide

example : (({ cap := 1 } : WS).run [.sigterm, .spawned, .takeSignal]).forwarded = true := by decide +kernel

/-! ## Sanity -/

-- two racers on a fresh path: exactly one gets the lock, the other fails with ErrLocked
example : (({} : PF).run [(1, .open), (2, .open), (2, .setlk), (1, .setlk), (2, .stat), (2, .trunc)]).pc 2 = .holder 0 := by decide +kernel
example : (({} : PF).run [(1, .open), (2, .open), (2, .setlk), (1, .setlk)]).pc 1 = .failed := by decide +kernel
-- the race of the source comment: B opened the old file, A removes it and exits, B locks the deleted file, notices, retries
example : (({} : PF).run [(1, .open), (1, .setlk), (1, .stat), (1, .trunc), (2, .open), (1, .remove), (1, .close),
    (2, .setlk), (2, .stat)]).pc 2 = .start := by decide +kernel

/-! ## The regenerated tie -/

/-- **C20 (the models are the current source's).**  watcher.go: the signal channel has capacity ≥ 1 and is notified of
SIGTERM; the loop spawns a worker and selects between the worker's status (respawn decision, or return) and the signal
(forward it to the worker with `worker.Process.Signal`, return).  pidfile.go: `CreatePidFile` opens with
`O_CREATE|O_WRONLY`, takes an exclusive non-blocking record lock (`F_WRLCK`, `F_SETLK`), compares `os.Stat(name)` with
`f.Stat()` by `os.SameFile`, closes and retries on a mismatch, truncates and returns; `Remove` unlinks the name before it
closes the descriptor; and nothing else in the file opens a file by name (closing any descriptor of the pid file would
drop the process's record lock on it). -/
theorem C20_sources_tied :
    Gen.Watcher.signalChanCap ≥ 1 ∧ Gen.Watcher.notified = ["syscall.SIGTERM"] ∧ Gen.Watcher.spawnInLoop = true ∧
    Gen.Watcher.onStatus = ["status.ShouldRespawn", "log.Errorf", "log.Infof", "return"] ∧
    Gen.Watcher.onSignal = ["log.Infof", "worker.Process.Signal", "return"] ∧
    Gen.Watcher.openers = ["CreatePidFile:os.OpenFile"] ∧
    Gen.Watcher.lockFacts = ["open:os.O_CREATE|os.O_WRONLY", "type:syscall.F_WRLCK", "cmd:syscall.F_SETLK"] ∧
    Gen.Watcher.createCalls = ["os.OpenFile", "return", "setWriteLock", "f.Close", "return", "os.Stat", "f.Name", "log.Debugf",
      "f.Close", "continue", "f.Stat", "f.Close", "return", "os.SameFile", "log.Debugf", "f.Close", "continue", "f.Truncate",
      "f.Close", "return", "return", "return"] ∧
    Gen.Watcher.removeCalls = ["os.Remove", "f.file.Name", "return", "return", "f.file.Close"] :=
  ⟨by decide, rfl, rfl, rfl, rfl, rfl, rfl, rfl, rfl⟩

/-- **C20 (tie: a crashed component asks for a respawn).**  The worker's crash guard reports `Respawn: true`, which
`runWorker` turns into exit status 3 (no respawn: 1) — and 3 ≥ 2 is "abnormal" for `ShouldRespawn` (`C20_respawn_table`). -/
theorem C20_crash_exit_status_tied :
    Gen.Worker.crashGuard = "Respawn:true" ∧ Gen.Worker.onError = ["setExitStatus(3)", "setExitStatus(1)"] ∧
    Gen.Respawn.shouldRespawn 3 true 0 false false = true ∧ Gen.Respawn.shouldRespawn 1 true 0 false false = false :=
  ⟨rfl, rfl, rfl, rfl⟩
