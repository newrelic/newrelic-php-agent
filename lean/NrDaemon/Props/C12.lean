import NrDaemon.Props.Reviewed
import NrDaemon.Gen.Skeleton
import NrDaemon.Model.Trigger
import NrDaemon.Lemmas.Limits
import NrDaemon.Gen.SwapTable
import NrDaemon.Props.Tied
import NrDaemon.Lemmas.HarvestReqs
import NrDaemon.Props.C06
/-!
  C12 — harvest cadence follows the negotiated periods and stops cleanly.
-/
open Gen.Limits

/-! ## Handshake invariant -/

/-- the invariant as the theorems state it, one implication per phase; the proofs use the equivalent description by
control points, `TG.Pt` (`TG.inv_iff`) -/
structure TG.Inv (s : TG) : Prop where
  noPanic : s.panicked = false
  closedDone : s.trigClosed = true → s.closer = .done
  lateEmpty : (s.closer = .closeTrigger ∨ s.closer = .done) → s.rest = [] ∧ s.phase = .fin
  fwdDone : s.fwd = .done → s.trigClosed = true
  closedFwd : s.trigClosed = true → s.fwd ≠ .idle
  phWait : s.phase = .wait → (s.closer = .notStarted ∨ s.closer = .sendCancel) ∧ ∀ m ∈ s.rest, m ≠ .cancelled
  phSending : s.phase = .sending → s.closer = .awaitConfirm ∧ s.rest ≠ [] ∧ ∀ m ∈ s.rest, m ≠ .cancelled
  phAwaiting : s.phase = .awaiting → s.closer = .awaitConfirm ∧ ∃ tl, s.rest = .cancelled :: tl ∧ ∀ m ∈ tl, m ≠ .cancelled
  phConfirm : s.phase = .confirm → s.closer = .awaitConfirm ∧ s.rest = []
  phFin : s.phase = .fin → (s.closer = .closeTrigger ∨ s.closer = .done)
  doneClosed : s.closer = .done → s.trigClosed = true

/-! ### The machine as guarded commands -/

/-- `s.Move e s'`: event `e` is enabled in `s` and takes it to `s'`.  `TG.step` follows this relation and stays where it
is when the event is not enabled (`TG.step_cases`, `TG.Move.step_eq`); everything below reasons about moves and does
not unfold `TG.step` again. -/
inductive TG.Move (s : TG) : TEvent → TG → Prop
  | tick {i} : s.rest[i]? = some .idle → Move s (.tick i) { s with rest := s.rest.set i .holding }
  | deliver {i} : s.rest[i]? = some .holding → s.trigClosed = false → s.fwd = .idle →
      Move s (.deliver i) { s with rest := s.rest.set i .idle, fwd := .holding }
  | panic {i} : s.rest[i]? = some .holding → s.trigClosed = true → Move s (.deliver i) { s with panicked := true }
  | procRecv : s.fwd = .holding → Move s .procRecv { s with fwd := if s.trigClosed then .done else .idle }
  | startDirect : s.closer = .notStarted → s.direct = true →
      Move s .startClose { s with closer := .awaitConfirm, phase := nextPhase s.rest }
  | startBc : s.closer = .notStarted → s.direct = false → Move s .startClose { s with closer := .sendCancel }
  | bcRecv : s.closer = .sendCancel → s.phase = .wait →
      Move s .bcRecv { s with closer := .awaitConfirm, phase := nextPhase s.rest }
  | bcSend {tl} : s.phase = .sending → s.rest = .idle :: tl →
      Move s .bcSend { s with rest := .cancelled :: tl, phase := .awaiting }
  | bcAwait {tl} : s.phase = .awaiting → s.rest = .cancelled :: tl →
      Move s .bcAwait { s with rest := tl, doneN := s.doneN + 1, phase := nextPhase tl }
  | bcConfirm : s.phase = .confirm → s.closer = .awaitConfirm →
      Move s .bcConfirm { s with phase := .fin, closer := .closeTrigger }
  | closeTrigger : s.closer = .closeTrigger →
      Move s .closeTrigger { s with trigClosed := true, closer := .done, fwd := if s.fwd = .idle then .done else s.fwd,
                                    panicked := s.panicked || s.rest.any (· == .holding) }

theorem TG.Move.step_eq {s s' : TG} {e : TEvent} (m : s.Move e s') : s.step e = s' := by
  cases m <;> simp [TG.step, *]

theorem TG.step_cases (s : TG) (e : TEvent) : s.step e = s ∨ s.Move e (s.step e) := by
  fun_cases s.step e <;> first | exact .inl rfl | (refine .inr ?_; constructor <;> simp [*])

/-! ### The invariant, by control point -/

/-- The control points of the stop protocol: where `Close` (`closer`) and the canceller (`phase`) stand, whether the
trigger channel is closed, and what the members still to be cancelled look like there.  The fields of `TG.Inv` are the
projections of this (`TG.inv_iff`). -/
inductive TG.Pt : CState → Phase → Bool → List MState → Prop
  | idle {l} : (∀ m ∈ l, m ≠ .cancelled) → Pt .notStarted .wait false l
  | asked {l} : (∀ m ∈ l, m ≠ .cancelled) → Pt .sendCancel .wait false l
  | sending {l} : l ≠ [] → (∀ m ∈ l, m ≠ .cancelled) → Pt .awaitConfirm .sending false l
  | awaiting {tl} : (∀ m ∈ tl, m ≠ .cancelled) → Pt .awaitConfirm .awaiting false (.cancelled :: tl)
  | confirm : Pt .awaitConfirm .confirm false []
  | closing : Pt .closeTrigger .fin false []
  | closed : Pt .done .fin true []

theorem TG.inv_iff (s : TG) :
    s.Inv ↔ s.panicked = false ∧ TG.Pt s.closer s.phase s.trigClosed s.rest ∧
      (s.fwd = .done → s.trigClosed = true) ∧ (s.trigClosed = true → s.fwd ≠ .idle) := by
  obtain ⟨d, n, l, f, p, c, tc, pn⟩ := s
  constructor
  · intro h
    refine ⟨h.noPanic, ?_, h.fwdDone, h.closedFwd⟩
    cases tc with
    | true => obtain rfl := h.closedDone rfl; obtain ⟨rfl, rfl⟩ := h.lateEmpty (.inr rfl); exact .closed
    | false =>
      cases p with
      | wait => obtain ⟨rfl | rfl, hn⟩ := h.phWait rfl; exact .idle hn; exact .asked hn
      | sending => obtain ⟨rfl, hne, hn⟩ := h.phSending rfl; exact .sending hne hn
      | awaiting => obtain ⟨rfl, tl, rfl, hn⟩ := h.phAwaiting rfl; exact .awaiting hn
      | confirm => obtain ⟨rfl, rfl⟩ := h.phConfirm rfl; exact .confirm
      | fin =>
        rcases h.phFin rfl with rfl | rfl
        · obtain ⟨rfl, -⟩ := h.lateEmpty (.inl rfl); exact .closing
        · cases h.doneClosed rfl
  · rintro ⟨hp, hpt, hf1, hf2⟩
    exact {
      noPanic := hp, fwdDone := hf1, closedFwd := hf2
      closedDone := by rintro rfl; cases hpt; rfl
      doneClosed := by rintro rfl; cases hpt; rfl
      lateEmpty := by rintro (rfl | rfl) <;> cases hpt <;> exact ⟨rfl, rfl⟩
      phWait := by rintro rfl; cases hpt with | idle hn => exact ⟨.inl rfl, hn⟩ | asked hn => exact ⟨.inr rfl, hn⟩
      phSending := by rintro rfl; cases hpt with | sending hne hn => exact ⟨rfl, hne, hn⟩
      phAwaiting := by rintro rfl; cases hpt with | awaiting hn => exact ⟨rfl, _, rfl, hn⟩
      phConfirm := by rintro rfl; cases hpt; exact ⟨rfl, rfl⟩
      phFin := by rintro rfl; cases hpt; exact .inl rfl; exact .inr rfl }

theorem TG.init_inv (n : Nat) (d : Bool) : (TG.init n d).Inv :=
  (TG.inv_iff _).mpr ⟨rfl, .idle fun _ hm => by cases List.eq_of_mem_replicate hm; decide, nofun, nofun⟩

theorem TG.Pt.set {c p tc l i a v} (h : TG.Pt c p tc l) (hi : l[i]? = some a) (ha : a ≠ .cancelled) (hv : v ≠ .cancelled) :
    TG.Pt c p tc (l.set i v) := by
  have keep {l : List MState} {i : Nat} (hn : ∀ m ∈ l, m ≠ .cancelled) : ∀ m ∈ l.set i v, m ≠ .cancelled :=
    fun m hm => (List.mem_or_eq_of_mem_set hm).elim (hn m) (· ▸ hv)
  cases h with
  | idle hn => exact .idle (keep hn)
  | asked hn => exact .asked (keep hn)
  | sending hne hn => exact .sending (mt (List.set_eq_nil_iff _ _).mp hne) (keep hn)
  | awaiting hn =>
    cases i with
    | zero => cases hi; exact absurd rfl ha
    | succ j => exact .awaiting (keep hn)
  | confirm | closing | closed => cases hi

theorem TG.Pt.next {l : List MState} (hn : ∀ m ∈ l, m ≠ .cancelled) : TG.Pt .awaitConfirm (nextPhase l) false l := by
  cases l with
  | nil => exact .confirm
  | cons a t => exact .sending (List.cons_ne_nil a t) hn

theorem TG.Move.inv {s s' : TG} {e : TEvent} (m : s.Move e s') (h : s.Inv) : s'.Inv := by
  rw [TG.inv_iff] at h ⊢
  obtain ⟨hpan, hpt, hfd, hfi⟩ := h
  obtain ⟨d, n, l, f, p, c, tc, pn⟩ := s
  cases m with
  | tick hi => exact ⟨hpan, hpt.set hi (by decide) (by decide), hfd, hfi⟩
  | deliver hi _ _ => exact ⟨hpan, hpt.set hi (by decide) (by decide), nofun, fun _ => nofun⟩
  | panic hi hc => cases hc; cases hpt; cases hi   -- the channel is closed only when every member has returned
  | procRecv _ => exact ⟨hpan, hpt, by cases tc <;> simp, by cases tc <;> simp⟩
  | startDirect hc _ => cases hc; cases hpt with | idle hn => exact ⟨hpan, .next hn, hfd, hfi⟩
  | startBc hc _ => cases hc; cases hpt with | idle hn => exact ⟨hpan, .asked hn, hfd, hfi⟩
  | bcRecv hc _ => cases hc; cases hpt with | asked hn => exact ⟨hpan, .next hn, hfd, hfi⟩
  | bcSend hp hr =>
    cases hp; cases hr
    cases hpt with | sending _ hn => exact ⟨hpan, .awaiting fun m hm => hn m (.tail _ hm), hfd, hfi⟩
  | bcAwait hp hr => cases hp; cases hr; cases hpt with | awaiting hn => exact ⟨hpan, .next hn, hfd, hfi⟩
  | bcConfirm hp _ => cases hp; cases hpt; exact ⟨hpan, .closing, hfd, hfi⟩
  | closeTrigger hc =>
    cases hc; cases hpt; cases hpan
    exact ⟨rfl, .closed, fun _ => rfl, fun _ => by split; nofun; assumption⟩

theorem TG.step_inv (s : TG) (e : TEvent) (h : s.Inv) : (s.step e).Inv :=
  (s.step_cases e).elim (fun heq => heq.symm ▸ h) (·.inv h)

theorem TG.run_inv (s : TG) (es : List TEvent) (h : s.Inv) : (s.run es).Inv :=
  es.foldlRecOn _ h fun s hs e _ => TG.step_inv s e hs

/-! ## Progress and termination -/

/-- The weights are chosen so that every move but a tick lowers the sum: a delivery takes 2 from the member (holding →
idle) and gives 1 to the forwarder (idle → holding); the forwarder's hand-over, a cancel message taken, a member gone
and each step of `Close` take at least 1; a tick (idle → holding) adds 2. -/
def mW : MState → Nat
  | .holding => 4
  | .idle => 2
  | .cancelled => 1

def fW : FState → Nat
  | .holding => 2
  | .idle => 1
  | .done => 0

def cW : CState → Nat
  | .notStarted => 4
  | .sendCancel => 3
  | .awaitConfirm => 2
  | .closeTrigger => 1
  | .done => 0

def restW (l : List MState) : Nat := (l.map mW).foldl (· + ·) 0

/-- termination measure: what is left to do before every goroutine has returned -/
def TG.mu (s : TG) : Nat := restW s.rest + fW s.fwd + cW s.closer

theorem restW_cons (a : MState) (l : List MState) : restW (a :: l) = mW a + restW l := by
  simp only [restW, ← List.sum_eq_foldl_nat, List.map_cons, List.sum_cons]

theorem restW_set {l : List MState} {i : Nat} {a : MState} (v : MState) (h : l[i]? = some a) :
    restW (l.set i v) + mW a = restW l + mW v := by
  induction l generalizing i with
  | nil => cases h
  | cons x t ih =>
    cases i with
    | zero => cases h; simp only [List.set_cons_zero, restW_cons]; omega
    | succ j => have := ih (i := j) h; simp only [List.set_cons_succ, restW_cons]; omega

def TEvent.isTick : TEvent → Bool
  | .tick _ => true
  | _ => false

theorem TG.Move.mu_lt {s s' : TG} {e : TEvent} (m : s.Move e s') (h : s.Inv) (ht : e.isTick = false) : s'.mu < s.mu := by
  cases m with
  | tick => cases ht
  | deliver hi _ hf => have := restW_set .idle hi; simp only [TG.mu, hf, fW, mW] at *; omega
  | panic hi hc => rw [(h.lateEmpty (.inr (h.closedDone hc))).1] at hi; cases hi
  | procRecv hf => simp only [TG.mu, hf]; split <;> simp only [fW] <;> omega
  | startDirect hc _ | startBc hc _ | bcRecv hc _ | bcConfirm _ hc => simp only [TG.mu, hc, cW]; omega
  | bcSend _ hr | bcAwait _ hr => simp only [TG.mu, hr, restW_cons, mW]; omega
  | closeTrigger hc => simp only [TG.mu, hc, cW]; split <;> simp only [*, fW] <;> omega

/-- **C12 (termination bound).**  Every step other than a timer firing that changes the state strictly decreases the
measure; a timer firing raises it by 2.  Hence from any reachable state, once the stop request is in, any schedule with
finitely many further ticks reaches a state where nothing but ticks can happen after at most `mu + 2·ticks` steps. -/
theorem C12_measure_decreases (s : TG) (e : TEvent) (h : s.Inv) (hne : s.step e ≠ s) (ht : e.isTick = false) :
    (s.step e).mu < s.mu :=
  (s.step_cases e).elim (absurd · hne) (·.mu_lt h ht)

theorem C12_tick_raises_by_two (s : TG) (i : Nat) : (s.step (.tick i)).mu ≤ s.mu + 2 := by
  rcases s.step_cases (.tick i) with heq | m
  · rw [heq]; exact Nat.le_add_right _ _
  · generalize s.step _ = s' at m ⊢
    cases m with | tick hi => have := restW_set .holding hi; simp only [TG.mu, mW] at *; omega

/-- the events other than timer firings (indices range over the remaining members) -/
def nonTickEvents (s : TG) : List TEvent :=
  (List.range s.rest.length).map .deliver ++ [.procRecv, .startClose, .bcRecv, .bcSend, .bcAwait, .bcConfirm, .closeTrigger]

theorem TG.Move.mem {s s' : TG} {e : TEvent} (m : s.Move e s') (ht : e.isTick = false) : e ∈ nonTickEvents s := by
  cases m with
  | tick => cases ht
  | deliver hi | panic hi =>
    obtain ⟨hlt, -⟩ := List.getElem?_eq_some_iff.mp hi
    exact List.mem_append_left _ (List.mem_map_of_mem (List.mem_range.mpr hlt))
  | _ => exact List.mem_append_right _ (by decide)

theorem TG.Move.ne {s s' : TG} {e : TEvent} (m : s.Move e s') (h : s.Inv) (ht : e.isTick = false) : s.step e ≠ s :=
  fun heq => Nat.lt_irrefl s.mu (by have := m.mu_lt h ht; rwa [← m.step_eq, heq] at this)

theorem TG.Inv.enabled {s : TG} (h : s.Inv) (hstarted : s.closer ≠ .notStarted) (hnf : s.final = false) :
    ∃ e s', s.Move e s' ∧ e.isTick = false := by
  obtain ⟨-, hpt, hfd, hfi⟩ := (TG.inv_iff s).mp h
  obtain ⟨d, n, l, f, p, c, tc, pn⟩ := s
  cases hpt with
  | idle => exact absurd rfl hstarted
  | asked => exact ⟨.bcRecv, _, .bcRecv rfl rfl, rfl⟩
  | sending hne hn =>
    match l, hne, hn with
    | .idle :: tl, _, _ => exact ⟨.bcSend, _, .bcSend rfl rfl, rfl⟩
    | .holding :: tl, _, _ =>
      -- a holding member can hand its tick to an idle forwarder, a busy forwarder can hand its event to the processor
      cases f with
      | idle => exact ⟨.deliver 0, _, .deliver rfl rfl rfl, rfl⟩
      | holding => exact ⟨.procRecv, _, .procRecv rfl, rfl⟩
      | done => cases hfd rfl
    | .cancelled :: tl, _, hn => exact absurd rfl (hn _ List.mem_cons_self)
  | awaiting => exact ⟨.bcAwait, _, .bcAwait rfl rfl, rfl⟩
  | confirm => exact ⟨.bcConfirm, _, .bcConfirm rfl rfl, rfl⟩
  | closing => exact ⟨.closeTrigger, _, .closeTrigger rfl, rfl⟩
  | closed =>
    cases f with
    | idle => exact absurd rfl (hfi rfl)   -- Close closed the channel: the forwarder is not waiting on it
    | holding => exact ⟨.procRecv, _, .procRecv rfl, rfl⟩
    | done => cases hnf

/-- **C12 (no deadlock).**  In every reachable state in which the stop request is in and some goroutine of the run's
timers is still alive, a step other than a timer firing is enabled: the handshake never waits for something that cannot
happen, whatever ticks were in flight and however busy the processor was (the processor's only part is to keep
receiving from its harvest channel, `procRecv`). -/
theorem C12_progress (s : TG) (h : s.Inv) (hstarted : s.closer ≠ .notStarted) (hnf : s.final = false) :
    ∃ e ∈ nonTickEvents s, s.step e ≠ s :=
  have ⟨e, _, m, ht⟩ := h.enabled hstarted hnf
  ⟨e, m.mem ht, m.ne h ht⟩

/-! ## The property: stopping -/

/-- **C12 (no send on a closed channel; close only after every timer goroutine has returned).**  In every state
reachable by any interleaving of ticks of any of the n timers (n = 1 for the combined timer, 6 for the custom group, any
n here), deliveries to the forwarder, the processor receiving or being busy, and the stop request at any moment: no
trigger goroutine ever sends on the closed trigger channel (which would crash the daemon), and once `Close` has reached
`close(trigger)` every trigger goroutine has confirmed and returned. -/
theorem C12_no_send_on_closed (n : Nat) (direct : Bool) (es : List TEvent) :
    let s := (TG.init n direct).run es
    s.panicked = false ∧ (s.trigClosed = true → s.rest = [] ∧ s.closer = .done) ∧
      ((s.closer = .closeTrigger ∨ s.closer = .done) → s.rest = []) := by
  have h := TG.run_inv _ es (TG.init_inv n direct)
  exact ⟨h.noPanic, fun hc => ⟨(h.lateEmpty (Or.inr (h.closedDone hc))).1, h.closedDone hc⟩, fun hc => (h.lateEmpty hc).1⟩

/-- **C12 (deadlock-free and terminating in every interleaving).**  From every reachable state in which the stop
request is in: either every goroutine of the run's timers has returned, or a non-tick step is enabled
(`C12_progress`); and each such step decreases `mu` (`C12_measure_decreases`).  So every schedule in which only
finitely many more ticks fire reaches the final state. -/
theorem C12_stops_cleanly (n : Nat) (direct : Bool) (es : List TEvent)
    (hstarted : ((TG.init n direct).run es).closer ≠ .notStarted) :
    let s := (TG.init n direct).run es
    s.final = true ∨ ∃ e ∈ nonTickEvents s, s.step e ≠ s ∧ (s.step e).mu < s.mu := by
  have h := TG.run_inv _ es (TG.init_inv n direct)
  cases hf : ((TG.init n direct).run es).final with
  | true => exact .inl hf
  | false =>
    obtain ⟨e, _, m, ht⟩ := h.enabled hstarted hf
    exact .inr ⟨e, m.mem ht, m.ne h ht, m.step_eq ▸ m.mu_lt h ht⟩

/-- the final state is quiescent for the run: nothing but (ignored) ticks can change it -/
theorem C12_final_is_final (s : TG) (h : s.Inv) (hf : s.final = true) (e : TEvent) : s.step e = s := by
  simp only [TG.final, Bool.and_eq_true, beq_iff_eq, List.isEmpty_iff] at hf
  obtain ⟨⟨hc, hfw⟩, hr⟩ := hf
  -- nothing is left to do: the measure is 0, which no move can lower, and no member is left to take a tick
  have hmu : s.mu = 0 := by rw [TG.mu, hr, hfw, hc]; rfl
  refine (s.step_cases e).resolve_right fun m => ?_
  cases ht : e.isTick with
  | false => exact absurd (m.mu_lt h ht) (hmu ▸ Nat.not_lt_zero _)
  | true =>
    generalize s.step e = s' at m
    cases m with
    | tick hi => rw [hr] at hi; cases hi
    | _ => cases ht

/-! ## The property: cadence -/

def zeroMeansDefault (p : Nat) : Nat := if p = 0 then DefaultReportPeriod else p

/-- the period the property assigns to each data category -/
def specPeriod (n : Negotiated) : HType → Nat
  | .dflt => DefaultReportPeriod
  | .all => DefaultReportPeriod
  | c => zeroMeansDefault (catPeriod n c)

def dataCats : List HType := [.dflt, .txn, .custom, .err, .span, .log]

theorem isHarvestAll_iff (n : Negotiated) :
    isHarvestAll n = true ↔
      n.reportPeriod = DefaultReportPeriod ∧ ∀ c ∈ comparedCats, catPeriod n c = DefaultReportPeriod := by
  simp only [isHarvestAll, Bool.and_eq_true, List.all_eq_true, beq_iff_eq]
  exact ⟨fun ⟨h, hrp⟩ => ⟨hrp, fun c hc => (h c hc).trans hrp⟩, fun ⟨hrp, h⟩ => ⟨fun c hc => (h c hc).trans hrp.symm, hrp⟩⟩

theorem plan_eq (n : Negotiated) :
    plan n = if isHarvestAll n then [(.all, DefaultReportPeriod)] else dataCats.map fun c => (c, specPeriod n c) := by
  unfold plan
  split
  · rfl
  · -- `checkReportPeriod` is "zero means default", written with `==`
    have hz : ∀ p, checkReportPeriod p DefaultReportPeriod = zeroMeansDefault p := fun p => by
      simp [checkReportPeriod, zeroMeansDefault]
    simp only [customGroup, List.map, srcPeriod, hz]; rfl

/-- **C12 (one combined harvest exactly when every period is the default).** -/
theorem C12_combined_iff (n : Negotiated) :
    plan n = [(.all, DefaultReportPeriod)] ↔
      (n.reportPeriod = DefaultReportPeriod ∧ ∀ c ∈ comparedCats, catPeriod n c = DefaultReportPeriod) := by
  rw [← isHarvestAll_iff, plan_eq]
  cases isHarvestAll n <;> simp [dataCats]

/-- otherwise: default data every 60 s and one timer per event category -/
theorem C12_custom_plan (n : Negotiated) (h : isHarvestAll n = false) :
    plan n = [(.dflt, DefaultReportPeriod), (.txn, zeroMeansDefault n.cfgs.txn.period),
              (.custom, zeroMeansDefault n.cfgs.custom.period), (.err, zeroMeansDefault n.cfgs.err.period),
              (.span, zeroMeansDefault n.cfgs.span.period), (.log, zeroMeansDefault n.cfgs.log.period)] := by
  rw [plan_eq, h]; rfl

theorem cadence_map {cs : List HType} {f : HType → Nat} {c : HType} (hall : HType.all ∉ cs) (hc : c ∈ cs) :
    cadence (cs.map fun c => (c, f c)) c = some (f c) := by
  induction cs with
  | nil => cases hc
  | cons a t ih =>
    have ha : a ≠ .all := fun h => hall (h ▸ List.mem_cons_self)
    by_cases hac : a = c
    · simp [cadence, covers, hac]
    · have := ih (fun h => hall (List.mem_cons_of_mem _ h)) ((List.mem_cons.mp hc).resolve_left (Ne.symm hac))
      simpa [cadence, covers, ha, hac] using this

/-- **C12 (each category is harvested at its negotiated period).**  For every negotiated configuration — every
combination of present / absent / zero periods and limits — and each of the six data categories, the timers started by
`getHarvestTrigger` harvest it at: 60 s for default data, the category's own period for an event category, an absent or
zero period meaning 60 s. -/
theorem C12_cadence (n : Negotiated) (c : HType) (hc : c ∈ dataCats) :
    cadence (plan n) c = some (specPeriod n c) := by
  rw [plan_eq]
  cases hall : isHarvestAll n with
  | false => exact cadence_map (by decide) hc
  | true =>
    obtain ⟨-, hcat⟩ := (isHarvestAll_iff n).mp hall
    have : specPeriod n c = DefaultReportPeriod := by
      cases c with
      | all | dflt => rfl
      | _ => exact (congrArg zeroMeansDefault (hcat _ (by decide))).trans rfl
    rw [this]; rfl

/-! ## Every timer gets a period time.NewTicker accepts -/

def maxDuration : Nat := 9223372036854775807

/-- the bound is the current source's: both config objects replace a period of zero or above `maxReportPeriodMS` by
the default, and `maxReportPeriodMS` milliseconds fit a `time.Duration` -/
theorem C12_period_guards_tied :
    Gen.EventData.maxReportPeriodMs ≠ 0 ∧ Gen.EventData.maxReportPeriodMs * 1000000 ≤ maxDuration ∧
    Gen.EventData.periodGuards =
      ["SpanEventHarvestConfig:rawConfig.ReportPeriodMS==0||rawConfig.ReportPeriodMS>maxReportPeriodMS",
       "EventHarvestConfig:rawConfig.ReportPeriodMS==0||rawConfig.ReportPeriodMS>maxReportPeriodMS"] :=
  ⟨by decide, by decide, rfl⟩

theorem defaultPeriod_fits : 0 < DefaultReportPeriod ∧ DefaultReportPeriod ≤ maxDuration := by decide

theorem periodOfMs_fits (ms : Option Nat) : periodOfMs ms ≤ maxDuration := by
  have hD := defaultPeriod_fits.2
  -- the guard's bound, in milliseconds, fits a Duration in nanoseconds
  have ⟨hmax0, hmax, _⟩ := C12_period_guards_tied
  unfold periodOfMs
  split
  · exact hD
  · next m =>
    split
    · exact hD
    · next h =>
      have hm : m ≤ Gen.EventData.maxReportPeriodMs := Nat.le_of_not_lt fun hgt => h (.inr ⟨hmax0, hgt⟩)
      exact Nat.le_trans (Nat.mul_le_mul_right _ hm) hmax

theorem negotiate_periods_fit {r : RawReply} {n : Negotiated} (h : negotiate r = some n) (c : HType) :
    catPeriod n c ≤ maxDuration := by
  have hD := defaultPeriod_fits.2
  -- a config made by `getEventConfig` has the default period or the report period of its object
  have ⟨he, ht, hc, hs, hl⟩ := negotiate_cfgs (P := fun _ c => c.period ≤ maxDuration) h (fun _ => Nat.zero_le _)
    fun _ ms _ _ hc => (getEventConfig_some hc).2.2.elim (· ▸ hD) (· ▸ periodOfMs_fits ms)
  cases c with
  | all | dflt => exact hD
  | err => exact he
  | txn => exact ht
  | custom => exact hc
  | span => exact hs
  | log => exact hl

/-- **C12 (no timer is started with a period `time.NewTicker` rejects).**  For every connect reply the daemon accepts —
any `report_period_ms` up to 2^64−1 in either config object, present, absent or zero — every timer of the plan has a
period that is positive and fits a `time.Duration`, so `time.NewTicker` cannot panic in the trigger goroutines. -/
theorem C12_timer_periods_fit (r : RawReply) (n : Negotiated) (h : negotiate r = some n) :
    ∀ x ∈ plan n, 0 < x.2 ∧ x.2 ≤ maxDuration := by
  have hD := defaultPeriod_fits
  have hsrc : ∀ s : PSrc, 0 < srcPeriod n s ∧ srcPeriod n s ≤ maxDuration := by
    intro s
    cases s with
    | dflt => exact hD
    | cfg c =>
      simp only [srcPeriod, checkReportPeriod, beq_iff_eq]
      split
      · exact hD
      · next hz => exact ⟨Nat.pos_of_ne_zero hz, negotiate_periods_fit h c⟩
  intro x hx
  unfold plan at hx
  split at hx
  · simp only [List.mem_singleton] at hx; subst hx; exact hD
  · simp only [List.mem_map] at hx
    obtain ⟨p, _, rfl⟩ := hx
    exact hsrc p.2

/-! ## A category whose limit is zero is never sent: the guard in the regenerated table, then the two harvest paths of the
processor model (from what they emit: `Lemmas/HarvestReqs.lean`) -/

/-- **C12 (a category whose limit is zero is never sent), per-type path.**  In `harvestByType` (regenerated table) each
event category is swapped and sent only under the guard `<its config>.Limit != 0`; on the combined path the category's
reservoir is built with that limit as capacity, stays empty (`C12_zero_capacity_reservoir_empty`) and empty payloads are not
sent (`C12_zero_limit_never_sent_combined`). -/
theorem C12_zero_limit_guarded :
    (Gen.SwapTable.rows.filter (fun r => r.guard != "HarvestDefaultData")).all
      (fun r => r.limitGuard != "" && r.limitGuard == r.ctorArg) = true ∧
    (Gen.SwapTable.rows.filter (fun r => r.guard != "HarvestDefaultData")).map (·.guard) =
      ["HarvestCustomEvents", "HarvestErrorEvents", "HarvestTxnEvents", "HarvestSpanEvents", "HarvestLogEvents"] := by
  decide +kernel

/-- **C12 (zero limit ⇒ never sent, per-category path).**  For every harvest content, tick mask and state: if the limit
negotiated for an event category is zero, `harvestByType` makes no request of that category. -/
theorem C12_zero_limit_never_sent_by_type (s : PState) (runId : String) (run : RunM) (app : AppM) (cfg : RunCfg) (mask : Nat) (a : HArgs) :
    (cfg.limLog = 0 → ∀ r ∈ (harvestTypesPart s runId run app cfg mask a).2, r.cat ≠ Cat.logEv) ∧
    (cfg.limSpan = 0 → ∀ r ∈ (harvestTypesPart s runId run app cfg mask a).2, r.cat ≠ Cat.spanEv) ∧
    (cfg.limCustom = 0 → ∀ r ∈ (harvestTypesPart s runId run app cfg mask a).2, r.cat ≠ Cat.customEv) ∧
    (cfg.limErr = 0 → ∀ r ∈ (harvestTypesPart s runId run app cfg mask a).2, r.cat ≠ Cat.errorEv) ∧
    (cfg.limTxn = 0 → ∀ r ∈ (harvestTypesPart s runId run app cfg mask a).2, r.cat ≠ Cat.txnEv) := by
  -- a request of an event category comes from a branch guarded by that category's limit
  have key := fun r hr => (harvestTypesPart_mem s runId run app cfg mask a r hr).2.2
  refine ⟨?_, ?_, ?_, ?_, ?_⟩
  all_goals
    intro h0 r hr hc
    have := key r hr
    rw [hc] at this
    simp [h0] at this

/-- **C12 (zero limit ⇒ never sent, combined path and final flush).**  `harvestAll` has no limit guard; it sends a
category only if its reservoir holds something — and a reservoir built with capacity zero never does
(`C12_zero_capacity_reservoir_empty`). -/
theorem C12_zero_limit_never_sent_combined (s : PState) (runId : String) (run : RunM) (app : AppM) (cfg : RunCfg) (a : HArgs) :
    (run.h.log.evs = #[] → ∀ r ∈ (harvestAllPart s runId run app cfg a).2, r.cat ≠ Cat.logEv) ∧
    (run.h.span.evs = #[] → ∀ r ∈ (harvestAllPart s runId run app cfg a).2, r.cat ≠ Cat.spanEv) ∧
    (run.h.custom.evs = #[] → ∀ r ∈ (harvestAllPart s runId run app cfg a).2, r.cat ≠ Cat.customEv) ∧
    (run.h.errEv.evs = #[] → ∀ r ∈ (harvestAllPart s runId run app cfg a).2, r.cat ≠ Cat.errorEv) ∧
    (run.h.txn.evs = #[] → ∀ r ∈ (harvestAllPart s runId run app cfg a).2, r.cat ≠ Cat.txnEv) := by
  -- a request is a non-empty container of `allPayloads`, and the only container of the category is empty
  have key : ∀ c : Cat, (∀ x ∈ allPayloads app run.h a, x.1 = c → x.2.isEmpty = true) →
      ∀ r ∈ (harvestAllPart s runId run app cfg a).2, r.cat ≠ c := fun c h r hr hc => by
    obtain ⟨_, hm, hne⟩ := harvestAllPart_mem s runId run app cfg a r hr
    rw [h _ hm hc] at hne
    cases hne
  have emp : ∀ r : Res, r.evs = #[] → (Payload.events r).isEmpty = true := fun r h => by simp [Payload.isEmpty, h]
  refine ⟨?_, ?_, ?_, ?_, ?_⟩ <;> intro h0 <;> apply key <;> intro x hx hc <;>
    obtain ⟨hcustom, herr, hspan, hlog, htxn, -⟩ := allPayloads_cat hx
  · rw [hlog hc]; exact emp _ h0
  · rw [hspan hc]; exact emp _ h0
  · rw [hcustom hc]; exact emp _ h0
  · rw [herr hc]; exact emp _ h0
  · -- an empty reservoir is not split
    have := htxn hc
    rw [txnPayloads_empty _ _ h0, List.mem_singleton] at this
    rw [this]; exact emp _ h0

/-- a reservoir of capacity zero holds nothing after any sequence of offers, merges and hand-backs -/
theorem C12_zero_capacity_reservoir_empty (ops : List ResOp) : (runRes 0 ops).size = 0 :=
  C06_reservoir_zero_capacity ops

/-! ## The regenerated ties -/

/-- **C12 (the model's tables are the current source's).**  The typed tables the theorems above are about are exactly
what the extractor reads from harvest_trigger.go, app_harvest.go and processor.go on this run: the categories compared by
`isHarvestAll` and its final comparison with the default period, the six timers of `customTriggerBuilder` with the source
of each period, `checkReportPeriod` (zero means default) applied to all five, the combined timer of
`getHarvestTrigger`, the select loop of `triggerBuilder` (a tick is followed by a blocking send on the trigger channel;
the cancel message by Stop, the confirmation and return), the broadcaster (receive, then per member send-and-await in
order, then confirm), `AppHarvest.Close` (send, await, Shutdown, close(trigger), close(cancel)), the forwarder loop, and
`shutdownAppHarvest` running `Close` in its own goroutine and forgetting the harvest. -/
theorem C12_tables_tied :
    Gen.Trigger.customTriggers.map interpTrigger = customGroup.map some ∧
    Gen.Trigger.harvestAllCompared.map cfgType = comparedCats.map some ∧
    Gen.Trigger.harvestAllFinalIsDefault = true ∧
    (comparedCats.all (fun c => Gen.Trigger.checkedPeriods.any (fun s => cfgType s == some c))) = true ∧
    Gen.Trigger.checkReportPeriodIsZeroMeansDefault = true ∧ Gen.Trigger.defaultPeriodIsConst = true ∧
    Gen.Trigger.allTrigger = ("HarvestAll", "limits.DefaultReportPeriod") ∧ Gen.Trigger.elseIsCustom = true ∧
    Gen.Trigger.onTick = ["send:trigger"] ∧
    Gen.Trigger.onCancel = ["call:ticker.Stop", "send:cancel", "return"] ∧
    Gen.Trigger.broadcaster = ["recv:cancel", "each:send:c", "each:recv:c", "send:cancel"] ∧
    Gen.Trigger.closeSteps = ["send:ah.cancel", "recv:ah.cancel", "if:call:ah.TraceObserver.Shutdown", "close:ah.trigger", "close:ah.cancel", "return"] ∧
    Gen.Trigger.forwarder = "range:ah.trigger;send:ph" ∧
    Gen.Trigger.closeIsAsync = true ∧ Gen.Trigger.closeForgetsHarvest = true :=
  -- the three that run `interpTrigger` / `cfgType` compare strings: kernel only; the rest match literals
  ⟨by decide +kernel, by decide +kernel, rfl, by decide +kernel, rfl, rfl, rfl, rfl, rfl, rfl, rfl, rfl, rfl, rfl, rfl⟩

/-- **C12 (tie: the all-at-once decision is the code's).**  The model's `isHarvestAll` equals
`(*ConnectReply).isHarvestAll` as translated from harvest_trigger.go on this run, for every negotiated configuration;
a nil reply means all-at-once. -/
theorem C12_isHarvestAll_tied (n : Negotiated) :
    isHarvestAll n =
      Gen.Decisions.isHarvestAll (n.cfgs.txn.period : Int) (n.cfgs.custom.period : Int) (n.cfgs.err.period : Int)
        (n.cfgs.log.period : Int) (n.cfgs.span.period : Int) (n.reportPeriod : Int) true ∧
    (∀ a b c d e f : Int, Gen.Decisions.isHarvestAll a b c d e f false = true) :=
  ⟨tied_isHarvestAll n, fun _ _ _ _ _ _ => rfl⟩

/-- **C12 (tie: absent / zero period means the default, as in the code).** -/
theorem C12_checkReportPeriod_tied (period dflt : Nat) :
    ((checkReportPeriod period dflt : Nat) : Int) = Gen.Negotiation.checkReportPeriod (dflt : Int) (period : Int) := by
  simp only [checkReportPeriod, Gen.Negotiation.checkReportPeriod]
  by_cases h : period = 0 <;> simp [h]

/-- **C12 (tie).**  `harvestByType` has not changed since it was reviewed (`Props/Reviewed.lean`): every per-category branch is guarded by
its own limit being non-zero. -/
theorem C12_harvest_by_type_source_tied : Gen.Skeleton.harvestByType = Reviewed.harvestByType := rfl

/-! ## Sanity -/

example : ((TG.init 6 false).run [.tick 2, .deliver 2, .tick 0, .startClose, .bcRecv, .procRecv, .deliver 0, .bcSend, .bcAwait]).doneN = 1 := by decide +kernel
example : ((TG.init 1 true).run [.tick 0, .startClose, .deliver 0, .bcSend, .bcAwait, .bcConfirm, .closeTrigger, .procRecv]).final = true := by decide +kernel
example : ((TG.init 1 true).run [.tick 0, .startClose, .bcSend]).phase = .sending := by decide +kernel   -- the member is busy: Close waits
