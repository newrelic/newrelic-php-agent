import NrDaemon.Lemmas.HarvestReqs
import NrDaemon.Props.Reviewed
import NrDaemon.Gen.Skeleton
import NrDaemon.Gen.SwapTable
import NrDaemon.Lemmas.Ledger
/-!
  C01 — accepted data is delivered exactly once when the collector accepts.

  `Gen.SwapTable` is regenerated from `processor.go` on every run: one row per container handled by
  `harvestByType`, with the statement positions of "save the old container", "install a fresh one" and "hand the
  saved one to the sender".
-/
open Gen.SwapTable

def containers : List String :=
  ["Metrics", "Errors", "SlowSQLs", "TxnTraces", "PhpPackages", "CustomEvents", "ErrorEvents", "TxnEvents", "SpanEvents", "LogEvents"]

def expectedCfg : String → String
  | "CustomEvents" => "CustomEventConfig" | "ErrorEvents" => "ErrorEventConfig" | "TxnEvents" => "AnalyticEventConfig"
  | "SpanEvents" => "SpanEventConfig" | "LogEvents" => "LogEventConfig" | _ => ""

def expectedGuard : String → String
  | "CustomEvents" => "HarvestCustomEvents" | "ErrorEvents" => "HarvestErrorEvents" | "TxnEvents" => "HarvestTxnEvents"
  | "SpanEvents" => "HarvestSpanEvents" | "LogEvents" => "HarvestLogEvents" | _ => "HarvestDefaultData"

/-- **C01 (swap-then-send, by type; over the regenerated table).**  Each of the ten containers is handled by exactly
one branch of `harvestByType`, under the harvest-type bit of its own category; in that branch the old container is
saved, a fresh container is installed, and only then the saved one is handed to the sender; an event category is
re-created with, and guarded by, the limit of its own category. -/
theorem C01_swap_complete :
    rows.map (·.field) = containers ∧
    rows.all (fun r => r.guard == expectedGuard r.field && decide (0 ≤ r.saveIdx) && decide (r.saveIdx < r.installIdx) &&
                       decide (r.installIdx < r.sendIdx) && r.sentSaved &&
                       r.limitGuard == expectedCfg r.field && r.ctorArg == expectedCfg r.field) = true :=
  ⟨rfl, by decide +kernel⟩

/-- **C01 (swap-then-send, all at once).**  `harvestAll` sends each of the ten containers exactly once, and the
caller installs a whole fresh `Harvest` before handing the old one over. -/
theorem C01_harvest_all_complete :
    allSends.length = 10 ∧ (∀ c ∈ containers, allSends.count c = 1) ∧ allInstallsBeforeSend = true :=
  ⟨rfl, by decide +kernel, rfl⟩

/-- **C01 (an empty container is never sent, a non-empty one becomes exactly one request).** -/
theorem C01_consider_one_request (s : PState) (a : HArgs) (cat : Cat) (p : Payload) :
    (p.isEmpty = true → (consider s a cat p).2 = [] ∧ (consider s a cat p).1 = s) ∧
    (p.isEmpty = false → (consider s a cat p).2.length = 1 ∧
      (consider s a cat p).1.inflight = s.inflight ++ (consider s a cat p).2) := by
  unfold consider
  constructor
  · intro h; simp [h]
  · intro h; simp [h]

/-! ## The ledger of one event category across harvest cycles (`Model/Ledger.lean`) -/

/-- **C01 (every event is in exactly one place, all histories).**  For every capacity, every attempt limit and every
history of offers, harvests (swap-then-send), acknowledgements, retryable failures (`MergeFailed`) and fatal failures, in
any order and with any number of requests in flight: the events in the current reservoir, in unanswered requests and
acknowledged by the collector, together with the events dropped (refused or displaced at capacity, given up at the
attempt limit, failed fatally), are exactly the events that were offered — as multisets, so nothing is duplicated and
nothing vanishes unaccounted. -/
theorem C01_event_ledger (cap limit : Nat) (evs : List CatEvent) :
    let s := (CatM.init cap limit).run evs
    ∃ lost, (s.cur.evs.toList ++ s.inflight.flatMap (·.evs.toList) ++ s.acked ++ lost).Perm s.offered := by
  have h := gLedger _ _ (evCont_lawful cap limit) (evs.map CatEvent.toG)
  rwa [← CatM.run_toGM] at h

/-- **C01 (delivered at most once).**  If the offered events are pairwise distinct, no event is acknowledged twice, and an
acknowledged event is neither waiting in the reservoir nor part of a request still in flight (so it cannot be sent again). -/
theorem C01_delivered_at_most_once (cap limit : Nat) (evs : List CatEvent)
    (hd : ((CatM.init cap limit).run evs).offered.Nodup) :
    let s := (CatM.init cap limit).run evs
    s.acked.Nodup ∧ ∀ e ∈ s.acked, e ∉ s.cur.evs.toList ∧ e ∉ s.inflight.flatMap (·.evs.toList) := by
  have h := gLedger_at_most_once _ _ (evCont_lawful cap limit) (evs.map CatEvent.toG)
  rw [← CatM.run_toGM] at h
  exact h hd

/-- **C01 (exactly once when there is room and the collector accepts).**  Events offered to a fresh reservoir that has
room for all of them, harvested and acknowledged, are delivered — all of them, each once. -/
theorem C01_all_delivered_when_accepted (cap limit : Nat) (es : List Ev) (hroom : es.length ≤ cap) (hne : es ≠ []) :
    ((CatM.init cap limit).run (es.map .offer ++ [.harvest, .ack 0])).acked.Perm es := by
  have hkept : ((evCont cap limit).contents (es.foldl (evCont cap limit).offer (evCont cap limit).fresh)).Perm es := by
    simpa [evCont, Res.foldl_add, Res.new] using resFold_room cap es hroom
  -- over the generic machine, what is acknowledged is what the container kept of the offers (`GM.acked_offers_harvest_ack`)
  have hsim : ((CatM.init cap limit).run (es.map .offer ++ [.harvest, .ack 0])).acked = _ :=
    congrArg GM.acked (CatM.run_toGM cap limit _)
  simp only [List.map_append, List.map_map, List.map_cons, List.map_nil, Function.comp_def, CatEvent.toG] at hsim
  rw [GM.acked_offers_harvest_ack] at hsim
  · exact hsim ▸ hkept
  · have hl := hkept.length_eq
    simp only [evCont, Array.length_toList] at hl ⊢
    rw [Array.isEmpty_eq_false_iff]
    intro h
    rw [h] at hl
    exact hne (List.eq_nil_of_length_eq_zero hl.symm)

/-! ## The ledger of every other category (`Model/GLedger.lean`, `Model/Containers.lean`)

The same machine with the container abstracted (`GM`): offers, swap-then-send harvests, acknowledgements, retryable and
fatal failures in any order, any number of requests in flight.  `gLedger` proves conservation for every *lawful*
container; each container of a harvest is shown lawful in `Lemmas/Containers.lean`.  Which categories merge a failed
payload back (`mergeFailed`) and which drop it is the regenerated `FailedHarvest` table (`C02_retry_categories`). -/

/-- **C01 (errors: every error is in exactly one place, all histories, every capacity).** -/
theorem C01_error_ledger (cap : Nat) (evs : List (GEvent Ev)) :
    let s := (GM.init (errCont cap)).run (errCont cap) evs
    ∃ lost, (s.cur.toList ++ s.inflight.flatMap (·.toList) ++ s.acked ++ lost).Perm s.offered :=
  gLedger (errCont cap) _ (errCont_lawful cap) evs

/-- **C01 (traces of one kind).** -/
theorem C01_trace_ledger (cap : Nat) (evs : List (GEvent Ev)) :
    let s := (GM.init (traceCont cap)).run (traceCont cap) evs
    ∃ lost, (s.cur.toList ++ s.inflight.flatMap (·.toList) ++ s.acked ++ lost).Perm s.offered :=
  gLedger (traceCont cap) _ (traceCont_lawful cap) evs

/-- **C01 (package lists): a later list replaces an earlier one, which is then accounted as dropped.** -/
theorem C01_package_ledger (evs : List (GEvent Nat)) :
    let s := (GM.init pkgCont).run pkgCont evs
    ∃ lost, (s.cur.toList ++ s.inflight.flatMap (·.toList) ++ s.acked ++ lost).Perm s.offered :=
  gLedger pkgCont _ pkgCont_lawful evs

/-- **C01 (slow SQLs): every observation is merged into exactly one statement that is held, in flight or
acknowledged, or was dropped with its statement.** -/
theorem C01_slowsql_ledger (cap : Nat) (evs : List (GEvent Obs)) :
    let s := (GM.init (slowCont cap)).run (slowCont cap) evs
    ∃ lost, (s.cur.flatMap (·.2) ++ s.inflight.flatMap (fun l => l.flatMap (·.2)) ++ s.acked ++ lost).Perm s.offered :=
  gLedger (slowCont cap) _ (slowCont_lawful cap) evs

/-- **C01 (metrics): every contribution is aggregated into exactly one table entry that is held, in flight or
acknowledged, or was refused at the capacity limit / given up at the attempt limit / failed fatally — for every
capacity, every attempt limit and every history, carried-over tables included.** -/
theorem C01_metric_ledger (max limit : Nat) (evs : List (GEvent Contrib)) :
    let s := (GM.init (mtCont max limit)).run (mtCont max limit) evs
    ∃ lost, (s.cur.ms.flatMap (·.2.2) ++ s.inflight.flatMap (fun t => t.ms.flatMap (·.2.2)) ++ s.acked ++ lost).Perm s.offered :=
  gLedger (mtCont max limit) _ (mtCont_lawful max limit) evs

/-- **C01 (nothing is delivered twice, every category).**  With pairwise distinct units of data, for each of the
containers: nothing is acknowledged twice, and what has been acknowledged is neither held nor in flight any more. -/
theorem C01_at_most_once_every_category :
    (∀ cap (evs : List (GEvent Ev)), ((GM.init (errCont cap)).run (errCont cap) evs).offered.Nodup →
        ((GM.init (errCont cap)).run (errCont cap) evs).acked.Nodup) ∧
    (∀ cap (evs : List (GEvent Ev)), ((GM.init (traceCont cap)).run (traceCont cap) evs).offered.Nodup →
        ((GM.init (traceCont cap)).run (traceCont cap) evs).acked.Nodup) ∧
    (∀ (evs : List (GEvent Nat)), ((GM.init pkgCont).run pkgCont evs).offered.Nodup →
        ((GM.init pkgCont).run pkgCont evs).acked.Nodup) ∧
    (∀ cap (evs : List (GEvent Obs)), ((GM.init (slowCont cap)).run (slowCont cap) evs).offered.Nodup →
        ((GM.init (slowCont cap)).run (slowCont cap) evs).acked.Nodup) ∧
    (∀ max limit (evs : List (GEvent Contrib)), ((GM.init (mtCont max limit)).run (mtCont max limit) evs).offered.Nodup →
        ((GM.init (mtCont max limit)).run (mtCont max limit) evs).acked.Nodup ∧
        ∀ c ∈ ((GM.init (mtCont max limit)).run (mtCont max limit) evs).acked,
          c ∉ ((GM.init (mtCont max limit)).run (mtCont max limit) evs).cur.ms.flatMap (·.2.2)) :=
  ⟨fun cap evs h => (gLedger_at_most_once _ _ (errCont_lawful cap) evs h).1,
   fun cap evs h => (gLedger_at_most_once _ _ (traceCont_lawful cap) evs h).1,
   fun evs h => (gLedger_at_most_once _ _ pkgCont_lawful evs h).1,
   fun cap evs h => (gLedger_at_most_once _ _ (slowCont_lawful cap) evs h).1,
   fun max limit evs h => ⟨(gLedger_at_most_once _ _ (mtCont_lawful max limit) evs h).1,
     fun c hc => ((gLedger_at_most_once _ _ (mtCont_lawful max limit) evs h).2 c hc).1⟩⟩

/-- **C01 (the ghost-carrying containers are the containers).**  Forgetting the ghosts, the slow-SQL and metric
containers of the ledger machines are exactly `slowObserve`, `MTable.mergeMetric` and `MTable.mergeFailed` — the
definitions the engines `slow` and `mt` compare with the real `SlowSQLs` and `MetricTable` after every operation. -/
theorem C01_ghosts_refine :
    (∀ cap (l : List SlowG) (o : Obs), (slowObserveG cap l o).map (·.1) = slowObserve cap (l.map (·.1)) o.1) ∧
    (∀ (t : MTG) k m g, t.Inv → (t.mergeG k m g).proj = t.proj.mergeMetric k m) ∧
    (∀ limit (t p : MTG), t.Inv → (t.mergeFailed limit p).proj = t.proj.mergeFailed limit p.proj) :=
  ⟨slowObserveG_proj, MTG.mergeG_proj, fun limit t p h => MTG.mergeFailed_proj limit t p h⟩

/-- non-vacuity: a metric history with a refusal at capacity, a carried-over table and an acknowledgement -/
example :
    let c1 : Contrib := (("a", ""), { forced := false, d := ⟨1, 2, 3, 4, 5, 6⟩ }, 1)
    let c2 : Contrib := (("b", ""), { forced := false, d := ⟨1, 2, 3, 4, 5, 6⟩ }, 2)
    let c3 : Contrib := (("a", ""), { forced := false, d := ⟨1, 1, 1, 1, 1, 1⟩ }, 3)
    let s := (GM.init (mtCont 1 5)).run (mtCont 1 5) [.offer c1, .offer c2, .harvest, .offer c3, .retry 0, .harvest, .ack 0]
    s.acked.map (·.2.2) = [3, 1] ∧ s.offered.length = 3 := by decide +kernel


/-! ## Ties to the current source: the functions transcribed by the model have not changed since they were reviewed (`Props/Reviewed.lean`) -/

/-- **C01 (tie).**  `harvestAll`: the combined harvest sends each container of the detached harvest once. -/
theorem C01_harvest_all_source_tied : Gen.Skeleton.harvestAll = Reviewed.harvestAll := rfl

/-- **C01 (tie).**  `harvestByType`: each branch saves the containers, installs fresh ones and hands the saved ones to exactly one request. -/
theorem C01_harvest_by_type_source_tied : Gen.Skeleton.harvestByType = Reviewed.harvestByType := rfl

/-- **C01 (tie).**  `eventsSplit`: a split payload is two independent reservoirs that partition the events. -/
theorem C01_split_source_tied : Gen.Skeleton.eventsSplit = Reviewed.eventsSplit := rfl


/-- **C01 (tie).**  `considerHarvestPayload`: an empty container is not sent; a non-empty one gets exactly one sender. -/
theorem C01_consider_payload_source_tied : Gen.Skeleton.considerHarvestPayload = Reviewed.considerHarvestPayload := rfl

/-- **C01 (tie).**  `newAnalyticsEvents`: every reservoir owns a freshly made slice of its capacity. -/
theorem C01_new_reservoir_source_tied : Gen.Skeleton.newAnalyticsEvents = Reviewed.newAnalyticsEvents := rfl


/-! ## What a harvest leaves behind (processor model): sent means detached -/

/-- **C01 (combined harvest: nothing stays behind).**  After the all-at-once harvest the run holds a completely fresh harvest
of the negotiated capacities; every container that was handed to a request (`C04_request_payload`) is gone from it, so the
live harvest can never send it a second time. -/
theorem C01_combined_harvest_installs_fresh (s : PState) (runId : String) (run : RunM) (app : AppM) (cfg : RunCfg) (a : HArgs) :
    getRun (harvestAllPart s runId run app cfg a).1 runId = some { run with h := HarvestM.new cfg } :=
  ((harvestAllPart_state s runId run app cfg a).1 runId).trans (if_pos rfl)

/-- **C01 (per-category harvest: what is sent is replaced in the same step, the rest is untouched).**  For every tick mask:
the reservoir of each event category whose bit is set (and whose limit is not zero) is a fresh one of the negotiated
capacity afterwards, and a category that is not harvested keeps exactly what it held - whatever the other branches did. -/
theorem C01_by_type_harvest_swaps_exactly (s : PState) (runId : String) (run : RunM) (app : AppM) (cfg : RunCfg) (mask : Nat) (a : HArgs) :
    ∃ h', getRun (harvestTypesPart s runId run app cfg mask a).1 runId = some { run with h := h' } ∧
      h'.custom = (if (hasBit mask 32 && cfg.limCustom != 0) then Res.new cfg.limCustom else run.h.custom) ∧
      h'.errEv = (if (hasBit mask 64 && cfg.limErr != 0) then Res.new cfg.limErr else run.h.errEv) ∧
      h'.txn = (if (hasBit mask 16 && cfg.limTxn != 0) then Res.new cfg.limTxn else run.h.txn) ∧
      h'.span = (if (hasBit mask 128 && cfg.limSpan != 0) then Res.new cfg.limSpan else run.h.span) ∧
      h'.log = (if (hasBit mask 256 && cfg.limLog != 0) then Res.new cfg.limLog else run.h.log) :=
  let ⟨h', _, hR, _, _, _, hres⟩ := harvestTypesPart_state s runId run app cfg mask a
  ⟨h', (hR runId).trans (if_pos rfl), hres⟩
