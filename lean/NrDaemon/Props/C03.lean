import NrDaemon.Props.Reviewed
import NrDaemon.Gen.Skeleton
import NrDaemon.Lemmas.Lifecycle
import NrDaemon.Props.Tied
import NrDaemon.Gen.Lifecycle
import NrDaemon.Props.C10
/-!
  C03 — application lifecycle follows the collector's verdicts.
  The status classification (`Gen.Status.*`) is regenerated from `collector/client.go` on every run.
-/
open Gen.Limits

/-- without a run id an agent is never told "still valid" -/
theorem C03_no_id_not_valid (s : PState) (cfg : AppCfg) :
    (processAppInfo s none cfg).2.1.status ≠ .stillValid := by
  cases ha : getApp s cfg.handle with
  | some app => rw [processAppInfo_known ha]; cases app.state <;> simp
  | none => rw [processAppInfo_new ha]; split <;> simp

/-- **C03 (still valid iff the run is held).**  A run id presented by an agent is confirmed iff the daemon currently
holds that run. -/
theorem C03_still_valid_iff (s : PState) (r : String) (cfg : AppCfg) :
    (processAppInfo s (some r) cfg).2.1.status = .stillValid ↔ (getRun s r).isSome = true := by
  rw [processAppInfo_runId]
  split
  · next hv => exact iff_of_true rfl hv
  · next hv => exact iff_of_false (C03_no_id_not_valid s cfg) hv

/-- **C03 (connected is reported only from the connected state, with the id of the current connect reply).** -/
theorem C03_connected_reply (s : PState) (rid : Option String) (cfg : AppCfg) (run : String)
    (h : (processAppInfo s rid cfg).2.1 = { status := .connected, run := run }) :
    ∃ app, getApp s cfg.handle = some app ∧ app.state = .connected ∧ app.runId = run := by
  rcases processAppInfo_valid_or s rid cfg with e | e <;> rw [e] at h
  · cases h
  · cases ha : getApp s cfg.handle with
    | some app =>
      rw [processAppInfo_known ha] at h
      refine ⟨app, rfl, ?_⟩
      cases hst : app.state <;> simp [hst] at h
      exact ⟨rfl, h⟩
    | none => rw [processAppInfo_new ha] at h; split at h <;> cases h

/-- **C03 (connect gating).**  A connect is launched only for an application in the unknown state whose last
attempt is at least the back-off (30 s, regenerated) in the past; otherwise nothing is sent. -/
theorem C03_connect_gating (s : PState) (h : String) (app : AppM) (ha : getApp s h = some app) :
    (app.state ≠ .unknown ∨ s.now - app.lastAttempt < (AppConnectAttemptBackoff : Int) → considerConnect s h = (s, [])) ∧
    (app.state = .unknown → s.now - app.lastAttempt ≥ (AppConnectAttemptBackoff : Int) →
      ∃ r, (considerConnect s h).2 = [r] ∧ r.cat = .preconnect ∧ r.license = app.cfg.license ∧ r.app = h) := by
  unfold considerConnect
  simp only [ha]
  constructor
  · intro hc
    rcases hc with hc | hc
    · simp [beq_false_of_ne hc]
    · simp [Int.not_le.mpr hc]
  · intro hu hb
    simp [hu, hb]

/-- **C03 (verdicts at connect).**  For an application that is waiting for a connect (state unknown): a 410 makes it
disconnected, a 401 invalid-license; every other failure (409, any other status, transport error, malformed reply)
leaves it retryable (unknown). -/
theorem C03_connect_verdicts (s : PState) (h : String) (app : AppM) (ha : getApp s h = some app)
    (hu : app.state = .unknown) (o : Outcome) :
    let st := ((getApp (connectFailed s h o) h).map (·.state))
    (o.code = 410 → st = some .disconnected) ∧ (o.code = 401 → st = some .invalidLicense) ∧
    (o.code ≠ 410 → o.code ≠ 401 → st = some .unknown) := by
  obtain ⟨st, e, _, h410, h401, hother⟩ := connectFailed_waiting ha hu o
  simp only [e, getApp_setApp, if_true, Option.map_some]
  exact ⟨fun hc => congrArg some (h410 hc), fun hc => congrArg some (h401 hc), fun h1 h2 => congrArg some (hother h1 h2)⟩

/-- **C03 (a verdict is permanent against stale connect results).**  Once an application is disconnected (410),
invalid-license (401) or connected, the result of another connect attempt that was still in flight — success or any
failure, at the preconnect or the connect stage — changes nothing: it neither revives the application, nor makes it
retryable again, nor creates a second run. -/
theorem C03_stale_attempt_ignored (s : PState) (h : String) (app : AppM) (ha : getApp s h = some app)
    (hs : app.state ≠ .unknown) :
    (∀ o, connectFailed s h o = s) ∧ (∀ coll run cfg, connectOk s h coll run cfg = s) := by
  have hb : (app.state != AState.unknown) = true := by simpa using hs
  exact ⟨fun o => by simp [connectFailed, ha, hb], fun coll run cfg => by simp [connectOk, ha, hb]⟩

/-- **C03 (data for a run the daemon does not hold is dropped).** -/
theorem C03_unknown_run_dropped (s : PState) (r : String) (t : TxnM) (h : getRun s r = none) :
    processTxn s r t = s :=
  C10_unknown_run_no_effect s r (fun h => aggregateTxn h t) h

/-- **C03 (inactive applications are dropped at the next harvest).** -/
theorem C03_inactive_dropped (s : PState) (r : String) (run : RunM) (app : AppM) (mask : Nat)
    (ha : getApp s run.app = some app) (ht : s.appTimeout > 0) (hi : s.now - app.lastActivity ≥ s.appTimeout) :
    (doHarvest s r run mask).2 = [] ∧ getRun (doHarvest s r run mask).1 r = none ∧
    getApp (doHarvest s r run mask).1 run.app = none := by
  have hcond : (decide (s.appTimeout > 0) && decide (s.now - app.lastActivity ≥ s.appTimeout)) = true := by simp [ht, hi]
  simp only [doHarvest, ha, hcond, if_true]
  exact ⟨trivial, (getRun_delRun s r r).trans (if_pos rfl), (find?_key_filter s.apps run.app run.app).trans (if_pos rfl)⟩


/-! ## Invariants over all histories of the processor loop (`Lemmas/Lifecycle.lean`) -/

/-- **C03 (connected means: exactly one run, held; all histories).**  In every state reachable by any sequence of agent
queries, transactions, harvest triggers, replies to harvest / preconnect / connect requests (any outcome, any order, any
number in flight, stale ones included) and clock advances: every run the daemon holds belongs to an application in the
connected state, and no application has two runs. -/
theorem C03_runs_belong_to_connected (es : List PEvent) :
    let s := ({} : PState).runEvents es
    (∀ r h, runApp s r = some h → appState s h = some .connected) ∧
    (∀ r1 r2 h, runApp s r1 = some h → runApp s r2 = some h → r1 = r2) :=
  let h := runEvents_inv step_lifeInv {} es lifeInv_empty
  ⟨h.runConnected, h.oneRun⟩

/-- **C03 (a 410 or an invalid license is permanent; all continuations).**  From any reachable state in which an
application is disconnected or has an invalid license, whatever happens afterwards — agent queries, late results of
connect attempts that were still in flight (successes included), replies to harvest requests of any run with any verdict,
triggers, time — its state never changes again. -/
theorem C03_terminal_permanent (es es' : List PEvent) (k : String)
    (ht : isTerminal (appState (({} : PState).runEvents es) k) = true) :
    appState ((({} : PState).runEvents es).runEvents es') k = appState (({} : PState).runEvents es) k :=
  (runEvents_inv (P := fun s' => LifeInv s' ∧ appState s' k = appState (({} : PState).runEvents es) k)
    (fun s' e ⟨hi, he⟩ => ⟨step_lifeInv s' e hi, ((step_moves s' e).terminal hi k (he ▸ ht)).trans he⟩)
    _ es' ⟨runEvents_inv step_lifeInv {} es lifeInv_empty, rfl⟩).2

/-- … and no connect is ever attempted for it again, and agents are told its state -/
theorem C03_terminal_no_connect (s : PState) (k : String) (app : AppM) (ha : getApp s k = some app)
    (ht : app.state = .disconnected ∨ app.state = .invalidLicense) :
    (considerConnect s k).2 = [] := by
  refine List.eq_nil_iff_forall_not_mem.mpr fun r hr => ?_
  obtain ⟨app', ha', hu, _⟩ := considerConnect_reqs s k r hr
  obtain rfl : app = app' := Option.some.inj (ha.symm.trans ha')
  rcases ht with h | h <;> rw [h] at hu <;> cases hu

/-- **C03 (tie: the connect gate is the code's).**  The condition under which the model's `considerConnect` starts a
connect attempt is `App.NeedsConnectAttempt` as translated from app.go on this run, for every state, time and last
attempt (with the regenerated back-off constant). -/
theorem C03_connect_gate_tied (st : AState) (now last : Int) :
    (st == .unknown && decide (now - last ≥ (Gen.Limits.AppConnectAttemptBackoff : Int))) =
      Gen.Decisions.needsConnectAttempt (Gen.Limits.AppConnectAttemptBackoff : Int) last now st.code := by
  cases st <;> simp [Gen.Decisions.needsConnectAttempt, AState.code]

/-- **C03 (every other connect failure is retried after the back-off).**  An application waiting for a connect whose
attempt fails with anything but 410 / 401 (409, another status, a transport error, a malformed reply) is still waiting
afterwards, with the same back-off window: the first agent query at or after the end of that window launches a fresh
preconnect for it — the failure is not the end of the application. -/
theorem C03_retried_after_backoff (s : PState) (cfg : AppCfg) (app : AppM) (o : Outcome)
    (ha : getApp s cfg.handle = some app) (hu : app.state = .unknown)
    (h410 : o.code ≠ 410) (h401 : o.code ≠ 401) (d : Int)
    (hb : s.now + d - app.lastAttempt ≥ (AppConnectAttemptBackoff : Int)) :
    let s1 := connectFailed s cfg.handle o
    let s2 : PState := { s1 with now := s1.now + d }
    ∃ r ∈ (processAppInfo s2 none cfg).2.2, r.cat = .preconnect ∧ r.app = cfg.handle ∧ r.license = app.cfg.license := by
  intro s1 s2
  -- after the failure the application is still waiting for a connect, with the same last attempt; `s2` is `s1` at a later time
  obtain ⟨st, e, _, _, _, hst⟩ := connectFailed_waiting ha hu o
  obtain rfl := hst h410 h401
  have hg2 : getApp s2 cfg.handle = some { app with state := .unknown } :=
    (congrArg (getApp · cfg.handle) e).trans ((getApp_setApp s _ _ _).trans (if_pos rfl))
  have hnow : s2.now = s.now + d := (congrArg (fun x : PState => x.now + d) e :)
  -- so the agent's query reaches `considerConnect` with the back-off expired
  rw [processAppInfo_known hg2]
  rw [← hnow] at hb
  obtain ⟨r, hr, hc, hl, hap⟩ :=
    (C03_connect_gating (setApp s2 cfg.handle { app with state := .unknown, lastActivity := s2.now }) cfg.handle _
      ((getApp_setApp s2 _ _ _).trans (if_pos rfl))).2 rfl hb
  refine ⟨r, ?_, hc, hap, hl⟩
  rw [hr]
  exact List.mem_singleton_self r

/-- **C03 (a restart answer during harvest invalidates the run and leads to a fresh connect).**  When a harvest request of
a connected application is answered with 401 or 409: the run is no longer held (agents presenting it are not told "still
valid", data under it is dropped — `C03_still_valid_iff`, `C03_unknown_run_dropped`), the application goes back to waiting
for a connect, and the only requests this can emit are preconnects for that application (at once if the back-off allows,
otherwise at the next agent query after it: `C03_retried_after_backoff`). -/
theorem C03_restart_during_harvest (s : PState) (req : Req) (run : RunM) (app : AppM) (o : Outcome)
    (hr : getRun s req.run = some run) (ha : getApp s run.app = some app) (hst : app.state = .connected)
    (ho : o.code = 401 ∨ o.code = 409) :
    let s' := (harvestVerdict s req o).1
    getRun s' req.run = none ∧ appState s' run.app = some .unknown ∧
    (∀ r ∈ (harvestVerdict s req o).2, r.cat = .preconnect ∧ r.app = run.app) := by
  intro s'
  have hsave : Gen.Status.shouldSaveHarvestData o.code = false := by
    rcases ho with h | h <;> simp [Gen.Status.shouldSaveHarvestData, h]
  have hdisc : Gen.Status.isDisconnect o.code false = false := by
    rcases ho with h | h <;> simp [Gen.Status.isDisconnect, h]
  have hrest : Gen.Status.isRestartException o.code = true := by
    rcases ho with h | h <;> simp [Gen.Status.isRestartException, h]
  have hne : (app.state == AState.disconnected) = false := by simp [hst]
  have hv : harvestVerdict s req o =
      considerConnect (shutdownRun (setApp (setRun s req.run run) run.app { app with state := .unknown }) req.run) run.app := by
    unfold harvestVerdict
    simp only [hr, hsave, Bool.false_eq_true, if_false]
    have hga : getApp (setRun s req.run run) run.app = some app := by rw [getApp_setRun]; exact ha
    simp only [hga, hdisc, hne, Bool.or_self, Bool.false_eq_true, if_false, hrest, Bool.true_or, if_true]
  have hq := considerConnect_quiet (shutdownRun (setApp (setRun s req.run run) run.app { app with state := .unknown }) req.run) run.app
  refine ⟨?_, ?_, fun r hrm => ?_⟩
  · have h1 : runApp s' req.run = none := by
      show runApp (harvestVerdict s req o).1 req.run = none
      rw [hv, hq.run, shutdownRun, runApp_delRun, if_pos rfl]
    simpa [runApp] using h1
  · show appState (harvestVerdict s req o).1 run.app = some .unknown
    rw [hv, appState_eq_view, hq.app, shutdownRun, appView_delRun, appView_setApp, if_pos rfl]
    rfl
  · rw [hv] at hrm
    obtain ⟨_, _, _, _, hc, hap, _⟩ := considerConnect_reqs _ _ r hrm
    exact ⟨hc, hap⟩

/-! ## The two functions the lifecycle model transcribes, as last reviewed against processor.go (`Gen.Lifecycle`) -/

/-- `processHarvestError`: unknown run → nothing; save the data iff the status says so; 410 (or an application already
disconnected) → disconnected, run shut down; 401/409 (or an application in restart) → unknown, run shut down, connect
considered — the structure of `harvestVerdict` -/
def reviewedHarvestError : List String := [
  "if !ok {",
  "return",
  "}",
  "h.Harvest.IncrementHttpErrors(…)",
  "if d.Reply.ShouldSaveHarvestData() {",
  "d.data.FailedHarvest(…)",
  "}",
  "switch {",
  "case d.Reply.IsDisconnect()||app.state==AppStateDisconnected:",
  "app.state = AppStateDisconnected",
  "p.shutdownAppHarvest(…)",
  "case d.Reply.IsRestartException()||app.state==AppStateRestart:",
  "app.state = AppStateUnknown",
  "p.shutdownAppHarvest(…)",
  "p.considerConnect(…)",
  "}"
]

/-- `processConnectAttempt`: unknown application or superseded attempt → nothing; 410 → disconnected; 401 → invalid
license; 409 → unknown; any other error → unknown; otherwise connected, the log limit negotiated BEFORE the run and its first
harvest are created — the structure of `connectFailed` / `connectOk` -/
def reviewedConnectAttempt : List String := [
  "if nil==app {",
  "return",
  "}",
  "if AppStateUnknown!=app.state {",
  "return",
  "}",
  "app.RawConnectReply = rep.RawReply.Body",
  "if rep.RawReply.IsDisconnect() {",
  "app.state = AppStateDisconnected",
  "return",
  "}",
  "else if rep.RawReply.IsRestartException() {",
  "if rep.RawReply.IsInvalidLicense() {",
  "app.state = AppStateInvalidLicense",
  "}",
  "else {",
  "app.state = AppStateUnknown",
  "}",
  "return",
  "}",
  "else if nil!=rep.Err {",
  "app.state = AppStateUnknown",
  "return",
  "}",
  "app.connectReply = rep.Reply",
  "app.state = AppStateConnected",
  "app.collector = rep.Collector",
  "app.RawSecurityPolicies = rep.RawSecurityPolicies",
  "app.connectTime = time.Now(…)",
  "app.harvestFrequency = time.Duration(app.connectReply.SamplingFrequency)*time.Second",
  "app.samplingTarget = uint16(…)",
  "processLogEventLimits(…)",
  "if 0==app.samplingTarget {",
  "app.samplingTarget = 10",
  "}",
  "if 0==app.harvestFrequency {",
  "app.harvestFrequency = 60*time.Second",
  "}",
  "app.HarvestTrigger = getHarvestTrigger(…)",
  "p.harvests[*app.connectReply.ID] = NewAppHarvest(…)"
]

/-- **C03 (tie: the lifecycle decisions are the code's).**  The decision skeletons regenerated from processor.go on this run
are the ones the model was transcribed from. -/
theorem C03_lifecycle_source_tied :
    Gen.Lifecycle.processHarvestError = reviewedHarvestError ∧ Gen.Lifecycle.processConnectAttempt = reviewedConnectAttempt :=
  ⟨rfl, rfl⟩


/-! ## Ties to the current source: the functions transcribed by the model have not changed since they were reviewed (`Props/Reviewed.lean`) -/

/-- **C03 (tie).**  `considerConnect`: state and back-off gate, time stamp, one attempt in its own goroutine. -/
theorem C03_consider_connect_source_tied : Gen.Skeleton.considerConnect = Reviewed.considerConnect := rfl
